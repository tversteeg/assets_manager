import AmVerif.Model.ReloaderFacts
/-!
# C15 — the reloader is quiet when idle and goes away with its cache

**Model** (`Model/Reloader.lean`, `iter`): one iteration of the outer loop of
`hot_reloading_thread` as a function of the two channels' state (pending messages, sender alive)
and of `Select::ready`'s pick. Assumed semantics of crossbeam's `Select::ready` (modelled, exercised
by the `idle` engine's primitive-conformance op): it blocks while no operation is ready, an operation
is ready when its channel has a message **or is disconnected**, and any ready operation may be
returned. The model is parametric in the two source facts that matter (`LoopCfg`: whether the thread
leaves when `cache_msg`, and when the event channel, is disconnected), computed from the regenerated
skeleton by `genCfg`.

The model yields `blocked / continue / exit` only; that a blocked thread uses no CPU and that an
exited thread is gone is the runtime's part (observed by the `idle` engine through `/proc`).
-/
namespace AmVerif.Props.C15
open AmVerif.Gen AmVerif.Model AmVerif.Model.Reloader

/-! ## The skeleton the model transcribes -/

/-- both channels are registered with the `Select`, `cache_msg` first (index 0), `events` second (index 1) -/
theorem skel_thread_setup : skel_hot_reloading_mod_hot_reloading_thread.take 2 = [.call .s_recv, .call .s_recv] := rfl

def outerLoop : List Reloader.Sk → List Reloader.Sk
  | [_, _, .loop body] => body
  | _ => []
def drainArms : List Reloader.Sk → List (List Reloader.Sk)
  | _ :: .loop [.call .s_try_recv, .branch arms] :: _ => arms
  | _ => []

/-- an iteration starts by blocking in `ready`, then runs the drain loop -/
theorem skel_iteration_head : (outerLoop skel_hot_reloading_mod_hot_reloading_thread).take 1 = [.call .s_ready] := rfl
/-- the drain loop handles the four messages ... -/
theorem skel_drain_arms : (drainArms (outerLoop skel_hot_reloading_mod_hot_reloading_thread)).take 4 =
    [[.loop [.call .s_try_recv, .branch [[.call .s_handle_events], []]], .call .s_update_if_local, .call .s_notify],
     [.call .s_use_static_ref], [.call .s_clear_local_cache], [.call .s_add_asset]] := rfl
/-- ... and ends on a receive error: by leaving the drain loop only, or the drain loop on `Empty` and the thread on `Disconnected` -/
theorem skel_drain_exit :
    (drainArms (outerLoop skel_hot_reloading_mod_hot_reloading_thread)).drop 4 = [[.brk]] ∨
    (drainArms (outerLoop skel_hot_reloading_mod_hot_reloading_thread)).drop 4 = [[.brk], [.call .s_break_outer, .brk]] := by
  first | exact Or.inl rfl | exact Or.inr rfl
/-- after the drain loop: only if `ready` named the event channel, take one event batch; leave the thread
when the event channel is disconnected -/
theorem skel_events_part : (outerLoop skel_hot_reloading_mod_hot_reloading_thread).drop 2 =
    [.branch [[.call .s_try_recv, .branch [[.call .s_handle_events], [], [.brk]]], []]] := rfl

/-- F-C15: the drain loop leaves the *thread* when the cache's channel is disconnected. -/
theorem C15_cfg_leavesOnDisconnect : genCfg.leavesOnDisconnect = true := by decide

/-! ## Quiet when idle -/

theorem ite_ne {α : Sort _} {c : Prop} [Decidable c] {a b x : α} (ha : a ≠ x) (hb : b ≠ x) : (if c then a else b) ≠ x := by
  split <;> assumption

theorem ite_eq_left_iff_of_ne {α : Sort _} {c : Prop} [Decidable c] {a b : α} (hb : b ≠ a) :
    (if c then a else b) = a ↔ c := by
  split
  · exact ⟨fun _ => ‹c›, fun _ => rfl⟩
  · exact ⟨fun h => absurd h hb, fun h => absurd h ‹¬c›⟩

/-- The iteration blocks exactly when no operation of the `Select` is ready. -/
theorem iter_blocked_iff (lc : LoopCfg) (pick : Bool) (s : LoopSt) :
    iter lc pick s = .blocked ↔ s.msgConn = true ∧ s.evConn = true ∧ s.msgQ = 0 ∧ s.evQ = 0 := by
  unfold iter
  dsimp only
  -- `blocked` is the first leaf of `iter` and no other (the term follows the tree of `if`s; `split` on it is slow)
  refine (ite_eq_left_iff_of_ne ?_).trans ?_
  · exact ite_ne nofun (ite_ne (ite_ne nofun (ite_ne nofun (ite_ne nofun nofun))) nofun)
  · simp only [Bool.and_eq_true, Bool.not_eq_true', Bool.or_eq_false_iff, decide_eq_false_iff_not, Nat.not_lt,
      Nat.le_zero_eq, Bool.not_eq_false']
    exact ⟨fun h => ⟨h.1.2, h.2.2, h.1.1, h.2.1⟩, fun h => ⟨⟨h.2.2.1, h.1⟩, h.2.2.2, h.2.1⟩⟩

/-- **C15_idle_blocks.** Cache alive, an event sender alive, nothing queued: the iteration blocks in
`ready` (whatever the source says about disconnection, whatever `ready` would pick). -/
theorem C15_idle_blocks (lc : LoopCfg) (pick : Bool) (s : LoopSt) (h1 : s.msgConn = true) (h2 : s.evConn = true)
    (h3 : s.msgQ = 0) (h4 : s.evQ = 0) : iter lc pick s = .blocked :=
  (iter_blocked_iff lc pick s).2 ⟨h1, h2, h3, h4⟩

/-- Conversely the thread only ever blocks when there is nothing to do and somebody may still send. -/
theorem C15_blocks_only_when_idle (lc : LoopCfg) (pick : Bool) (s : LoopSt) (h : iter lc pick s = .blocked) :
    s.msgConn = true ∧ s.evConn = true ∧ s.msgQ = 0 ∧ s.evQ = 0 :=
  (iter_blocked_iff lc pick s).1 h

example : iter ⟨false, true⟩ true ⟨0, 0, true, true⟩ = .blocked := by decide
example : iter ⟨false, true⟩ true ⟨2, 1, true, true⟩ = .continue_ ⟨0, 0, true, true⟩ := by decide

/-! ## Goes away with its cache -/

/-- Full-strength statement: once the cache (the only `cache_msg` sender) is gone, the very next
iteration ends the thread — for every pick, whatever is still queued, whether or not an event
sender is still alive (i.e. for every source kind). -/
def C15_stops_after_drop_stmt (lc : LoopCfg) : Prop :=
  ∀ (pick : Bool) (s : LoopSt), s.msgConn = false → iter lc pick s = .exit

/-- **C15_stops_after_drop (repaired loop).** -/
theorem C15_stops_after_drop (ee : Bool) : C15_stops_after_drop_stmt ⟨true, ee⟩ := by
  intro pick s h
  -- a disconnected `cache_msg` is ready, so the first `if` of `iter` (blocked) fails, and the second fires
  simp [iter, h]

example : iter ⟨true, true⟩ false ⟨3, 2, false, true⟩ = .exit := by decide

/-- ... in terms of runs: no pick sequence of length ≥ 1 leaves the thread alive. -/
theorem C15_stops_within_one_iteration (ee : Bool) (s : LoopSt) (h : s.msgConn = false) (p : Bool) (ps : List Bool) :
    runLoop ⟨true, ee⟩ s (p :: ps) = none := by
  simp [runLoop, C15_stops_after_drop ee p s h]

/-- The defective loop with the cache gone and an event sender alive: `cache_msg` is always ready, so `ready`
returns at once; the drain loop does not leave the thread; the events arm runs only if `ready` named the
event channel, and then it takes a batch if there is one. -/
theorem iter_spin (ee pick : Bool) (s : LoopSt) (h1 : s.msgConn = false) (h2 : s.evConn = true) :
    iter ⟨false, ee⟩ pick s = .continue_ { s with msgQ := 0, evQ := if pick then s.evQ - 1 else s.evQ } := by
  unfold iter
  simp only [h1, h2]
  by_cases he : s.evQ > 0 <;> cases pick <;> simp [he]
  -- picked, and no batch: `evQ - 1 = evQ`
  rw [Nat.eq_zero_of_not_pos he]

/-- **F-C15 at model level.** In the defective loop, with the cache gone and an event sender alive
(the in-memory source keeps one; the `FileSystem` watcher holds one until a send *fails*, which needs
the thread gone — they keep each other alive), every iteration returns at once and continues: -/
theorem C15_spins (ee : Bool) (pick : Bool) (s : LoopSt) (h1 : s.msgConn = false) (h2 : s.evConn = true) :
    ∃ s', iter ⟨false, ee⟩ pick s = .continue_ s' ∧ s'.msgConn = false ∧ s'.evConn = true ∧ s'.msgQ = 0 ∧ s'.evQ ≤ s.evQ :=
  ⟨_, iter_spin ee pick s h1 h2, h1, h2, rfl, by dsimp only; split <;> omega⟩

/-- ... a fixed point once the queues are drained: the thread neither blocks nor exits, it spins. -/
theorem C15_spins_fixpoint (ee : Bool) (pick : Bool) (s : LoopSt) (h1 : s.msgConn = false) (h2 : s.evConn = true)
    (h3 : s.msgQ = 0) (h4 : s.evQ = 0) : iter ⟨false, ee⟩ pick s = .continue_ s := by
  rw [iter_spin ee pick s h1 h2]
  cases s; cases h3; cases h4; cases pick <;> rfl

/-- ... for ever: no pick sequence makes it exit or block. -/
theorem C15_spins_forever (ee : Bool) (s : LoopSt) (h1 : s.msgConn = false) (h2 : s.evConn = true) (ps : List Bool) :
    ∃ s', runLoop ⟨false, ee⟩ s ps = some (s', false) := by
  induction ps generalizing s with
  | nil => exact ⟨s, rfl⟩
  | cons p ps ih =>
    obtain ⟨s', hs, c1, c2, _, _⟩ := C15_spins ee p s h1 h2
    obtain ⟨s'', h⟩ := ih s' c1 c2
    exact ⟨s'', by simp [runLoop, hs, h]⟩

theorem C15_stops_after_drop_false_in_defective_loop (ee : Bool) : ¬ C15_stops_after_drop_stmt ⟨false, ee⟩ := by
  intro h
  have := h false ⟨0, 0, false, true⟩ rfl
  revert this; cases ee <;> decide

/-- With the cache gone and *no* event sender left, the defective loop does exit — but only when
`ready` happens to name the event channel. -/
theorem C15_defective_exit_needs_event_pick (s : LoopSt) (h1 : s.msgConn = false) (h2 : s.evConn = false) (h3 : s.evQ = 0) :
    iter ⟨false, true⟩ true s = .exit ∧ ∃ s', iter ⟨false, true⟩ false s = .continue_ s' := by
  -- both channels are disconnected, hence ready, and the pick decides; the drain loop does not leave the
  -- thread, so only the events arm, when the pick runs it, meets a disconnected channel and exits
  cases s; simp_all [iter]

/-! ## Quiet when the source has released its sender -/

/-- F-C15b: the events arm leaves the thread when the event channel is disconnected. -/
theorem C15_cfg_leavesOnEventsDisconnect : genCfg.leavesOnEventsDisconnect = true := by decide

/-- Full-strength statement: a LIVE cache whose source holds no `EventSender` any more (it never
stored it, or dropped it later) does not keep a running thread: with nothing queued the next
iteration ends the thread (hot-reloading is over; `reload` / `add_asset` ignore the failed sends). -/
def C15_quiet_without_sender_stmt (lc : LoopCfg) : Prop :=
  ∀ (pick : Bool) (s : LoopSt), s.msgConn = true → s.evConn = false → s.msgQ = 0 → s.evQ = 0 → iter lc pick s = .exit

/-- **C15_quiet_without_sender (events arm breaks on `Disconnected`).** -/
theorem C15_quiet_without_sender (l : Bool) : C15_quiet_without_sender_stmt ⟨l, true⟩ := by
  intro pick s h1 h2 h3 h4
  -- only the event channel is ready (it is disconnected), so `ready` names it whatever the pick; the drain
  -- loop finds `cache_msg` empty and connected; the events arm finds no batch and no sender, and exits
  simp [iter, h1, h2, h3, h4]

/-- ... and queued work only delays the exit: whatever is queued, no iteration blocks, and an iteration that
looks at the event channel after it was drained exits. -/
theorem C15_without_sender_never_blocks (lc : LoopCfg) (pick : Bool) (s : LoopSt) (h : s.evConn = false) :
    iter lc pick s ≠ .blocked := by
  intro hb
  have := C15_blocks_only_when_idle lc pick s hb
  simp [h] at this

/-- **Refutation for an events arm that ignores `Disconnected`** (seeded mutation C15-b): `ready` returns at
once for ever, the iteration continues with the same state — the thread busy-spins for the whole life
of the cache. -/
theorem C15_busy_when_events_exit_missing (l pick : Bool) (s : LoopSt) (h1 : s.msgConn = true) (h2 : s.evConn = false)
    (h3 : s.msgQ = 0) (h4 : s.evQ = 0) : iter ⟨l, false⟩ pick s = .continue_ s := by
  -- the path of `C15_quiet_without_sender` up to the last `if`, which here continues with `{ s with msgQ := 0 } = s`
  cases s; simp_all [iter]

theorem C15_quiet_without_sender_false_without_events_exit (l : Bool) : ¬ C15_quiet_without_sender_stmt ⟨l, false⟩ := by
  intro h
  have h1 := h false ⟨0, 0, true, false⟩ rfl rfl rfl rfl
  rw [C15_busy_when_events_exit_missing l false ⟨0, 0, true, false⟩ rfl rfl rfl rfl] at h1
  cases h1

/-- the verdicts the driver computes for a live cache without sender -/
theorem C15_verdict_without_sender (l : Bool) :
    verdict ⟨l, true⟩ ⟨0, 0, true, false⟩ = .exited ∧ verdict ⟨l, false⟩ ⟨0, 0, true, false⟩ = .spinning := by
  cases l <;> decide

example : iter ⟨true, true⟩ true ⟨0, 0, true, false⟩ = .exit := by decide

theorem C15_quiet_without_sender_today : C15_quiet_without_sender_stmt genCfg.loop := by
  simp only [Cfg.loop, C15_cfg_leavesOnEventsDisconnect]; exact C15_quiet_without_sender _

/-! ## No accumulation -/

/-- the threads still alive after each of them ran one iteration -/
def alive (lc : LoopCfg) (pick : Bool) (ts : List LoopSt) : List LoopSt :=
  ts.filterMap fun s => match iter lc pick s with
    | .exit => none | .blocked => some s | .continue_ s' => some s'

/-- **C15_no_accumulation.** After any number of create/drop rounds (any number of reloader threads
whose caches are gone), one iteration later none of them runs — whatever they had queued. -/
theorem C15_no_accumulation (ee : Bool) (pick : Bool) (ts : List LoopSt) (h : ∀ s ∈ ts, s.msgConn = false) :
    alive ⟨true, ee⟩ pick ts = [] := by
  induction ts with
  | nil => rfl
  | cons s ts ih =>
    have hs := C15_stops_after_drop ee pick s (h s (by simp))
    simp only [alive, List.filterMap_cons, hs]
    exact ih (fun x hx => h x (List.mem_cons_of_mem _ hx))

example : alive ⟨true, true⟩ false [⟨1, 0, false, true⟩, ⟨0, 4, false, false⟩, ⟨0, 0, false, true⟩] = [] := by decide

/-- In the defective loop every dropped cache whose source keeps an event sender leaves a spinning thread behind. -/
theorem C15_accumulates_in_defective_loop (ee : Bool) (pick : Bool) (ts : List LoopSt)
    (h : ∀ s ∈ ts, s.msgConn = false ∧ s.evConn = true) : (alive ⟨false, ee⟩ pick ts).length = ts.length := by
  induction ts with
  | nil => rfl
  | cons s ts ih =>
    simp only [alive, List.filterMap_cons, iter_spin ee pick s (h s (by simp)).1 (h s (by simp)).2, List.length_cons]
    have := ih (fun x hx => h x (List.mem_cons_of_mem _ hx))
    simp only [alive] at this
    omega

/-! ## What the observer is predicted to see (the function the driver evaluates) -/

theorem C15_verdict_exited (ee : Bool) (s : LoopSt) (h : s.msgConn = false) : verdict ⟨true, ee⟩ s = .exited := by
  simp [verdict, verdictFuel, C15_stops_after_drop ee false s h]

theorem verdictFuel_spinning (ee : Bool) (f : Nat) : ∀ (p : Bool) (s : LoopSt), s.msgConn = false → s.evConn = true →
    verdictFuel ⟨false, ee⟩ f p s = .spinning := by
  induction f with
  | zero => intro p s _ _; rfl
  | succ f ih =>
    intro p s h1 h2
    rw [verdictFuel, iter_spin ee p s h1 h2]
    exact ih (!p) _ h1 h2

theorem C15_verdict_spinning (ee : Bool) (s : LoopSt) (h1 : s.msgConn = false) (h2 : s.evConn = true) : verdict ⟨false, ee⟩ s = .spinning :=
  verdictFuel_spinning ee _ false s h1 h2

theorem C15_verdict_asleep (lc : LoopCfg) (s : LoopSt) (h1 : s.msgConn = true) (h2 : s.evConn = true)
    (h3 : s.msgQ = 0) (h4 : s.evQ = 0) : verdict lc s = .asleep := by
  simp [verdict, verdictFuel, C15_idle_blocks lc false s h1 h2 h3 h4]

/-! ## At today's source -/

/-- **C15 (full strength, today's source).** -/
theorem C15_stops_after_drop_today : C15_stops_after_drop_stmt genCfg.loop := by
  simp only [Cfg.loop, C15_cfg_leavesOnDisconnect]; exact C15_stops_after_drop _

theorem C15_no_accumulation_today (pick : Bool) (ts : List LoopSt) (h : ∀ s ∈ ts, s.msgConn = false) :
    alive genCfg.loop pick ts = [] := by
  simp only [Cfg.loop, C15_cfg_leavesOnDisconnect]; exact C15_no_accumulation _ pick ts h

end AmVerif.Props.C15
