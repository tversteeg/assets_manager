import AmVerif.Gen.TabLock
import AmVerif.Model.ReloaderFacts
import AmVerif.Lemmas.Mailbox
import AmVerif.Lemmas.Visit
/-!
# C08 — `hot_reload` always returns: no deadlock, no crash, any number of callers

**Model** (`Model/Reloader.lean`). `n` concurrent `hot_reload` calls (call `i` owns token `i`:
`fetch_add`), the `cache_msg` channel, the single-slot `Answers` mailbox and the reloader thread, as
shared state + per-thread programs of atomic steps; a schedule is an arbitrary `List Tid` (spurious
condvar wake-ups are schedule entries of their own; a disabled choice is a stutter). The update pass
the thread runs between receiving and answering a request is an *arbitrary* function
`Env.upd : token → ok | panics | overflow` — every dependency graph and every loader — and
`updatePass` computes it from the model of `DepsGraph::visit`.

**Parametric in the source facts.** The protocol depends on two facts (`waitNotifies`,
`catchesPanic`), the visit on one (`marksFirst`). `genCfg` computes them from the effect skeletons
regenerated from the source on every run. The theorems below are proved for *every* environment with
the repaired facts (any number of callers, any schedule, any graph); for the defective facts there
are kernel-checked refutation witnesses; `C08_cfg_*` demand that today's source has the repaired
facts, and `C08_no_deadlock_today` instantiates the theorems at `genCfg`.
-/
namespace AmVerif.Props.C08
open AmVerif.Gen AmVerif.Model AmVerif.Model.Reloader AmVerif.Lemmas.MailboxStep AmVerif.Lemmas.Mailbox AmVerif.Lemmas.MailboxRank AmVerif.Lemmas.Visit

/-! ## The effect skeletons the model transcribes (regenerated from the source) -/

/-- `Answers::notify`: under the mutex, wait until the slot is empty, publish the token, wake all. -/
theorem skel_notify : skel_hot_reloading_mod_Answers_notify =
    [.acq .s_lock 0, .call .s_wait_while, .call .s_assign_deref, .call .s_notify_all, .rel 0] := rfl
/-- `Answers::wait_for_answer` begins: under the mutex, wait for the own token, empty the slot. -/
theorem skel_wait_prefix : skel_hot_reloading_mod_Answers_wait_for_answer.take 3 =
    [.acq .s_lock 0, .call .s_wait_while, .call .s_assign_deref] := rfl
/-- ... and nothing but an optional `notify_all` follows before the mutex is released. -/
theorem skel_wait_suffix :
    skel_hot_reloading_mod_Answers_wait_for_answer.drop 3 = [.rel 0] ∨
    skel_hot_reloading_mod_Answers_wait_for_answer.drop 3 = [.call .s_notify_all, .rel 0] := by
  first | exact Or.inl rfl | exact Or.inr rfl
theorem skel_token : skel_hot_reloading_mod_Answers_get_unique_token = [.call .s_fetch_add_Relaxed] := rfl
/-- `HotReloader::reload`: fresh token, send `Ptr`, wait only if the send succeeded. -/
theorem skel_reload : skel_hot_reloading_mod_HotReloader_reload =
    [.call .s_get_unique_token, .call .s_Ptr, .call .s_send, .branch [[.call .s_wait_for_answer], []]] := rfl

/-- `HotReloader::start` creates the cache→reloader channel **unbounded**. The mailbox model relies on it:
`send` on `cache_msg` is a step that never blocks. This matters because the reloader thread is the only
consumer of that channel *and also sends on it* (a reload that loads never-cached assets reaches
`HotReloader::add_asset` on the reloader thread): with a bounded channel that send blocks for ever once
the queue is full and the pending `hot_reload` never returns (seeded mutation C08-a; engine op `hr.bulk`). -/
theorem skel_start_unbounded_channel : skel_hot_reloading_mod_HotReloader_start =
    [.call .s_unbounded, .call .s_name, .closure [.call .s_hot_reloading_thread], .call .s_spawn] := rfl
/-- the three senders on that channel do nothing but send -/
theorem skel_add_asset_sends : skel_hot_reloading_mod_HotReloader_add_asset = [.call .s_AddAsset, .call .s_send] := rfl
theorem skel_clear_sends : skel_hot_reloading_mod_HotReloader_clear = [.call .s_send] := rfl

/-- the first arm of the `match` in the drain loop of `hot_reloading_thread`, by position in its skeleton -/
def ptrArm : List Reloader.Sk → List Reloader.Sk
  | [_, _, .loop (_ :: .loop [_, .branch (arm :: _)] :: _)] => arm
  | _ => []
/-- the `Ptr` arm of the thread loop: update first, then answer -/
theorem skel_thread_answers_after_update :
    ptrArm skel_hot_reloading_mod_hot_reloading_thread =
      [.loop [.call .s_try_recv, .branch [[.call .s_handle_events], []]], .call .s_update_if_local, .call .s_notify] := rfl
theorem skel_update_if_local : skel_hot_reloading_paths_HotReloadingData_update_if_local =
    [.branch [[.call .s_run_update], []]] := rfl
theorem skel_run_update : skel_hot_reloading_paths_run_update =
    [.call .s_topological_sort_from, .call .s_clear, .loop [.call .s_reload]] := rfl
theorem skel_sort : skel_hot_reloading_dependencies_DepsGraph_topological_sort_from =
    [.loop [.call .s_visit], .call .s_TopologicalSort] := rfl
/-- `visit` begins with the visited test and the node look-up, each with its early return. -/
theorem skel_visit_guard : skel_hot_reloading_dependencies_DepsGraph_visit.take 4 =
    [.call .s_contains, .branch [[.ret], []], .call .s_get, .branch [[], [.ret]]] := rfl
/-- the rest of `visit` is: recurse over the reverse dependencies, mark, push — in one of the two orders -/
theorem skel_visit_rest :
    skel_hot_reloading_dependencies_DepsGraph_visit.drop 4 =
      [.loop [.call .s_visit], .call .s_insert, .branch [[.call .s_push], []]] ∨
    skel_hot_reloading_dependencies_DepsGraph_visit.drop 4 =
      [.call .s_insert, .loop [.call .s_visit], .branch [[.call .s_push], []]] := by
  first | exact Or.inl rfl | exact Or.inr rfl

/-! ## The source facts: today's source must have the repaired ones -/

/-- F-C08a: `wait_for_answer` signals after emptying the slot. -/
theorem C08_cfg_waitNotifies : genCfg.waitNotifies = true := by decide
/-- F-C08b: `visit` marks a node before recursing. -/
theorem C08_cfg_marksFirst : genCfg.marksFirst = true := by decide
/-- F-C09: the recorded reload runs under `catch_unwind`. -/
theorem C08_cfg_catchesPanic : genCfg.catchesPanic = true := by decide

/-! ## No deadlock -/

/-- Full-strength statement for an environment: in every reachable state (any number `n` of calls,
any schedule, spurious wake-ups included) in which some call `i` has not returned, a thread that is
*already running* can take a non-spurious step: the reloader, call `i` itself, or a call in flight. -/
def C08_no_deadlock_stmt (e : Env) : Prop :=
  ∀ (n : Nat) (σ : List Tid) (i : Nat), (run e (init n) σ).c i ≠ .done →
    (step e (run e (init n) σ) .reloader).isSome ∨
    ∃ k, (k = i ∨ active ((run e (init n) σ).c k) = true) ∧ (step e (run e (init n) σ) (.caller k)).isSome

/-- **C08_no_deadlock (repaired protocol).** If every update pass returns and `wait_for_answer`
signals after emptying the slot, no reachable state is a deadlock — for any number of concurrent
callers and every schedule. -/
theorem C08_no_deadlock (e : Env) (hs : Safe e) (hw : e.waitNotifies = true) : C08_no_deadlock_stmt e := by
  intro n σ i hnd
  exact no_deadlock_of_inv e n _ (inv_run hs (Or.inl hw) (init n) σ (inv_init n)) i hnd

/-- The environments of the repaired source: it signals, catches loader panics, and its visit does not overflow. -/
def repairedEnv (u : Nat → Upd) : Env := ⟨true, true, u⟩
example : C08_no_deadlock_stmt (repairedEnv fun t => if t % 2 = 0 then .ok else .panics) :=
  C08_no_deadlock _ (by intro t; simp only [repairedEnv]; by_cases h : t % 2 = 0 <;> simp [h]) rfl

/-- a state the executable predicate calls deadlocked refutes the statement -/
theorem deadlocked_refutes (e : Env) (n : Nat) (σ : List Tid) (h : deadlocked e (run e (init n) σ) n = true) :
    ¬ C08_no_deadlock_stmt e := by
  intro hstmt
  have hb := bound_run (e := e) (init n) σ (bound_init n)
  simp only [deadlocked, Bool.and_eq_true, Bool.not_eq_true'] at h
  obtain ⟨⟨h1, h2⟩, h3⟩ := h
  obtain ⟨i, _, hi⟩ := allDone_false n h1
  rcases hstmt n σ i hi with hr | ⟨k, _, hk⟩
  · simp [h2] at hr
  · by_cases hkn : k < n
    · rw [anyCallerEnabled_false n h3 k hkn] at hk; simp at hk
    · have : (run e (init n) σ).c k = .done := Decidable.byContradiction fun hc => hkn (hb k hc)
      rw [step_done_none e _ k this] at hk; simp at hk

open Tid in
/-- **F-C08a at model level (lost wake-up).** Without the signal, two callers and this 10-step
schedule end with call 1 asleep for its answer, the reloader asleep for an empty slot, the slot
empty, and nobody able to move. Kernel-checked. -/
theorem C08_lost_wakeup (cp : Bool) :
    deadlocked ⟨false, cp, fun _ => .ok⟩
      (run ⟨false, cp, fun _ => .ok⟩ (init 2)
        [caller 0, caller 1, reloader, reloader, reloader, reloader, reloader, reloader, caller 0, caller 1]) 2 = true := by
  cases cp <;> decide

/-- The full-strength statement is false for the protocol without the signal. -/
theorem C08_no_deadlock_false_without_signal (cp : Bool) : ¬ C08_no_deadlock_stmt ⟨false, cp, fun _ => .ok⟩ :=
  deadlocked_refutes _ 2 _ (C08_lost_wakeup cp)

open Tid in
/-- **F-C09 at model level.** One caller, an update pass whose loader panics, no `catch_unwind`: the
thread dies holding the request and the caller sleeps for ever. -/
theorem C08_panic_strands_caller (wn : Bool) :
    deadlocked ⟨wn, false, fun _ => .panics⟩
      (run ⟨wn, false, fun _ => .panics⟩ (init 1) [caller 0, reloader, reloader, caller 0]) 1 = true := by
  cases wn <;> decide

theorem C08_no_deadlock_false_with_uncaught_panic (wn : Bool) : ¬ C08_no_deadlock_stmt ⟨wn, false, fun _ => .panics⟩ :=
  deadlocked_refutes _ 1 _ (C08_panic_strands_caller wn)

/-- **C08_no_deadlock_partial.** Whatever `wait_for_answer` does after emptying the slot: with at
most one call (`n ≤ 1`, the executable extra hypothesis — one caller in flight at a time) there is
no deadlock, provided every update pass returns. -/
theorem C08_no_deadlock_partial (e : Env) (hs : Safe e) (n : Nat) (hn : n ≤ 1) (σ : List Tid) (i : Nat)
    (hnd : (run e (init n) σ).c i ≠ .done) :
    (step e (run e (init n) σ) .reloader).isSome ∨
    ∃ k, (k = i ∨ active ((run e (init n) σ).c k) = true) ∧ (step e (run e (init n) σ) (.caller k)).isSome :=
  no_deadlock_of_inv e n _ (inv_run hs (Or.inr hn) (init n) σ (inv_init n)) i hnd

example : (run ⟨false, false, fun _ => .ok⟩ (init 1) [.caller 0, .reloader, .reloader, .reloader, .caller 0]).c 0 = .done := by decide

/-! ## Own answer -/

/-- **C08_own_answer.** In every environment, for every number of callers and every schedule: a
call that has returned had its *own* request served (its token's update pass finished) — or it found
the thread already dead when it tried to send, in which case `reload` does not wait at all. -/
theorem C08_own_answer (e : Env) (n : Nat) (σ : List Tid) (i : Nat) (hi : i < n)
    (hd : (run e (init n) σ).c i = .done) :
    i ∈ (run e (init n) σ).served ∨ (run e (init n) σ).r = .dead :=
  (own_run (init n) σ (own_init n)).o3 i hi hd

/-- ... and a token is only ever published after its update pass. -/
theorem C08_published_is_served (e : Env) (n : Nat) (σ : List Tid) (t : Nat)
    (h : (run e (init n) σ).slot = some t) : t ∈ (run e (init n) σ).served :=
  (own_run (init n) σ (own_init n)).o1 t h

example : (run ⟨true, true, fun _ => .ok⟩ (init 2)
    [.caller 1, .caller 0, .reloader, .reloader, .reloader, .caller 1]).served = [1] := by decide

/-! ## Bounded work -/

/-- **C08_bounded_work.** In every environment every effective step that is not a spurious wake-up
strictly decreases `rank = (n+2)·major + minor` (`major`: how far the tokens still have to travel —
unsent 6, queued 5, being updated 4, in the reloader's hand 3, in the slot 1; `minor`: threads that can
still re-check their predicate without moving a token). -/
theorem C08_bounded_work (e : Env) (n : Nat) (σ : List Tid) (t : Tid) (s' : St)
    (ht : t = .reloader ∨ ∃ i, t = .caller i) (h : step e (run e (init n) σ) t = some s') :
    rank s' n < rank (run e (init n) σ) n :=
  rank_step (bound_run (init n) σ (bound_init n)) (.of_step h) ht

/-- ... so a schedule without spurious wake-ups performs at most `6·n·(n+2)` effective steps. -/
theorem C08_work_bound (e : Env) (n : Nat) (σ : List Tid) (hσ : NoSpurious σ) :
    work e (init n) σ ≤ 6 * n * (n + 2) := by
  have := work_le_rank (e := e) (init n) σ (bound_init n) hσ
  rw [rank_init] at this
  have h2 : (n + 2) * (6 * n) = 6 * n * (n + 2) := Nat.mul_comm _ _
  omega

/-- ... and when such an execution of the repaired protocol cannot continue, every call has returned. -/
theorem C08_maximal_all_returned (e : Env) (hs : Safe e) (hw : e.waitNotifies = true) (n : Nat) (σ : List Tid)
    (hmax : step e (run e (init n) σ) .reloader = none ∧ ∀ k, step e (run e (init n) σ) (.caller k) = none) :
    ∀ i, (run e (init n) σ).c i = .done := by
  intro i
  apply Decidable.byContradiction
  intro hnd
  rcases C08_no_deadlock e hs hw n σ i hnd with h | ⟨k, _, h⟩
  · simp [hmax.1] at h
  · simp [hmax.2 k] at h

example : work ⟨true, true, fun _ => .ok⟩ (init 2) [.caller 0, .caller 0, .caller 1, .reloader, .reloader] = 5 := by decide

/-! ## The visit terminates; the process is never aborted -/

/-- Full-strength statement: the sort returns on every finite graph (cyclic look-ups included) within
`#nodes + 1` stack frames. -/
def C08_topo_terminates_stmt (markFirst : Bool) : Prop :=
  ∀ (g : Nat → Option (List Nat)) (isAsset : Nat → Bool) (nodes : List Nat), (∀ a rs, g a = some rs → a ∈ nodes) →
    ∀ changed, topo g isAsset markFirst (nodes.length + 1) changed ≠ none

/-- **C08_topo_terminates (repaired order).** -/
theorem C08_topo_terminates : C08_topo_terminates_stmt true := by
  intro g isAsset nodes hfin changed
  obtain ⟨st, hs⟩ := Lemmas.Topo.sortFrom_terminates nodes hfin _ (Nat.le_refl _) changed
  simp [topo, sort_true_eq, hs]

/-- two assets that look each other up (`1 ↔ 2`, both reverse dependencies of file `0`) -/
def mutualLookups : Nat → Option (List Nat)
  | 0 => some [1] | 1 => some [2] | 2 => some [1] | _ => none
example : topo mutualLookups (· ≠ 0) true 4 [0] = some [1, 2] := by decide

/-- **F-C08b at model level.** In the defective order a node that is its own reverse dependency
exhausts every fuel: unbounded recursion. -/
theorem C08_visit_diverges (fuel : Nat) : topo (fun _ => some [0]) (fun _ => true) false fuel [0] = none :=
  topo_diverges_self_loop _ _ 0 ⟨[], rfl⟩ fuel

theorem C08_topo_terminates_false_in_defective_order : ¬ C08_topo_terminates_stmt false := by
  intro h
  exact h (fun k => if k = 0 then some [0] else none) (fun _ => true) [0]
    (by intro a rs ha; by_cases h0 : a = 0
        · simp [h0]
        · simp [h0] at ha)
    [0] (topo_diverges_self_loop _ _ 0 ⟨[], by simp⟩ 2)

/-- **C08_topo_terminates_partial.** In the defective order the sort still returns on acyclic graphs
(a rank strictly decreases along reverse-dependency edges), with fuel above the largest rank. -/
theorem C08_topo_terminates_partial (g : Nat → Option (List Nat)) (isAsset : Nat → Bool) (rank : Nat → Nat)
    (hr : ∀ a rs b, g a = some rs → b ∈ rs → rank b < rank a) (fuel : Nat) (changed : List Nat)
    (hf : ∀ k ∈ changed, rank k < fuel) : topo g isAsset false fuel changed ≠ none := by
  obtain ⟨s, hs⟩ := Lemmas.Topo.foldlM_returns_all (F := fun s k => visit g false fuel s k) changed ⟨[], []⟩
    fun s k hk => visit_terminates_acyclic g rank hr fuel s k (hf k hk)
  simp [topo, hs]

/-- file 0 ← asset 1 ← asset 2 (a chain) -/
def chain : Nat → Option (List Nat) | 0 => some [1] | 1 => some [2] | 2 => some [] | _ => none
example : topo chain (· ≠ 0) false 3 [0] = some [1, 2] := by decide

/-- The update pass of the repaired visit never overflows (on any finite graph, whatever the loaders do). -/
theorem C08_update_never_overflows (g : Nat → Option (List Nat)) (isAsset : Nat → Bool) (nodes : List Nat)
    (hfin : ∀ a rs, g a = some rs → a ∈ nodes) (changed : List Nat) (panicking : Nat → Bool) :
    updatePass g isAsset true (nodes.length + 1) changed panicking ≠ .overflow := by
  have := C08_topo_terminates g isAsset nodes hfin changed
  unfold updatePass
  cases h : topo g isAsset true (nodes.length + 1) changed with
  | none => exact absurd h this
  | some order => simp only []; split <;> simp

/-- **C08_never_aborts.** If no update pass overflows the stack, no schedule of any number of
callers reaches the aborted state; and the thread never dies unless a loader panic goes uncaught. -/
theorem C08_never_aborts (e : Env) (h : ∀ t, e.upd t ≠ .overflow) (n : Nat) (σ : List Tid) :
    (run e (init n) σ).r ≠ .aborted := by
  intro hx
  rcases (alive_run e (init n) σ).1 hx with h1 | ⟨u, hu⟩
  · simp [init] at h1
  · exact h u hu

theorem C08_thread_survives (e : Env) (h : e.catchesPanic = true) (n : Nat) (σ : List Tid) :
    (run e (init n) σ).r ≠ .dead := by
  intro hx
  rcases (alive_run e (init n) σ).2 hx with h1 | ⟨u, _, hu⟩
  · simp [init] at h1
  · simp [h] at hu

/-- the defective visit aborts the process on the first request after a self look-up was recorded -/
example : (run ⟨true, true, fun _ => updatePass (fun _ => some [0]) (fun _ => true) false 8 [0] (fun _ => false)⟩
    (init 1) [.caller 0, .reloader, .reloader]).r = .aborted := by decide

/-! ## The theorems at today's source -/

/-- Environment of today's source running update passes over graph `g` (stack depth `#nodes + 1`). -/
def envToday (g : Nat → Option (List Nat)) (isAsset : Nat → Bool) (nodes : List Nat)
    (changed : Nat → List Nat) (panicking : Nat → Bool) : Env :=
  ⟨genCfg.waitNotifies, genCfg.catchesPanic,
   fun t => updatePass g isAsset genCfg.marksFirst (nodes.length + 1) (changed t) panicking⟩

/-- **C08 (full strength, today's source):** any number of concurrent `hot_reload` calls, any
schedule, any finite dependency graph (cyclic look-ups included), any set of changed entries per
request, loaders that panic or not: no deadlock, never aborted, thread alive. -/
theorem C08_no_deadlock_today (g : Nat → Option (List Nat)) (isAsset : Nat → Bool) (nodes : List Nat)
    (hfin : ∀ a rs, g a = some rs → a ∈ nodes) (changed : Nat → List Nat) (panicking : Nat → Bool) :
    C08_no_deadlock_stmt (envToday g isAsset nodes changed panicking) ∧
    ∀ n σ, (run (envToday g isAsset nodes changed panicking) (init n) σ).r ≠ .aborted ∧
           (run (envToday g isAsset nodes changed panicking) (init n) σ).r ≠ .dead := by
  have hov : ∀ t, (envToday g isAsset nodes changed panicking).upd t ≠ .overflow := by
    intro t; simp only [envToday, C08_cfg_marksFirst]
    exact C08_update_never_overflows g isAsset nodes hfin (changed t) panicking
  have hsafe : Safe (envToday g isAsset nodes changed panicking) := by
    intro t
    have := hov t
    cases hu : (envToday g isAsset nodes changed panicking).upd t with
    | ok => exact Or.inl rfl
    | panics => exact Or.inr ⟨rfl, by simp [envToday, C08_cfg_catchesPanic]⟩
    | overflow => exact absurd hu this
  refine ⟨C08_no_deadlock _ hsafe (by simp [envToday, C08_cfg_waitNotifies]), fun n σ => ⟨?_, ?_⟩⟩
  · exact C08_never_aborts _ hov n σ
  · exact C08_thread_survives _ (by simp [envToday, C08_cfg_catchesPanic]) n σ

/-- The crate's own `Condvar::wait_while` (wrapper over std / parking_lot in `utils/private.rs`) re-checks its
condition after every wake-up in both lock implementations: `Answers` shares one condition variable between all
`hot_reload` callers and the reloader and wakes with `notify_all`, so the model's "a waiter proceeds only when its
own condition holds" is this fact. -/
theorem C08_wait_while_rechecks : waitWhileRechecksStd = true ∧ waitWhileRechecksParkingLot = true := by decide

/-- Value-level facts of the `hot_reload` handshake that no effect skeleton shows: a caller waits for exactly its own token, the
reloader publishes only into an empty slot, tokens are distinct, `notify_all` wakes every sleeper; and a request takes in the events
that were sent before it (the loop is bounded by the length of the EVENT channel). -/
theorem C08_handshake_values : AmVerif.Gen.answersHandshakeExact = true ∧ AmVerif.Gen.requestTakesPendingEvents = true := by decide

end AmVerif.Props.C08
