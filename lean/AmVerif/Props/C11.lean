import AmVerif.Gen.TabFacts
import AmVerif.Lemmas.Source
/-!
# C11 — directory assets list exactly the matching ids of a directory / subtree

Statements are over an arbitrary source view `v` (so they hold for `sem t`, for every archive
index, for the file-system view, and for a view with unreadable directories); C04 connects the
views of the four sources to the tree.
-/
namespace AmVerif.Props.C11
open AmVerif.Model.Source
open AmVerif.Lemmas.Source (strLt_iff_lt mem_insertSorted mem_sortDedup)

/-! ## `sort_unstable(); dedup()` -/

/-- `a < b` in Rust's `str` order. -/
abbrev Lt (a b : Id) : Prop := strLt a b = true

theorem strLt_irrefl (a : Id) : strLt a a = false :=
  Bool.eq_false_iff.mpr fun h => List.lt_irrefl _ ((strLt_iff_lt a a).mp h)

theorem strLt_trans {a b c : Id} (h1 : Lt a b) (h2 : Lt b c) : Lt a c :=
  (strLt_iff_lt a c).mpr (List.lt_trans ((strLt_iff_lt a b).mp h1) ((strLt_iff_lt b c).mp h2))

/-- Strictly ascending: sorted and without duplicates. -/
def StrictSorted : List Id → Prop
  | [] => True
  | [_] => True
  | a :: b :: rest => Lt a b ∧ StrictSorted (b :: rest)

/-- The head is below everything after it (`Lt` is transitive). -/
theorem strictSorted_cons {a : Id} {l : List Id} : StrictSorted (a :: l) ↔ (∀ b ∈ l, Lt a b) ∧ StrictSorted l := by
  induction l generalizing a with
  | nil => exact ⟨fun _ => ⟨fun _ h => (nomatch h), trivial⟩, fun _ => trivial⟩
  | cons c l ih =>
    constructor
    · rintro ⟨hac, hcl⟩
      refine ⟨fun b hb => ?_, hcl⟩
      rcases List.mem_cons.mp hb with rfl | hb
      · exact hac
      · exact strLt_trans hac ((ih.mp hcl).1 b hb)
    · rintro ⟨hall, hcl⟩
      exact ⟨hall c List.mem_cons_self, hcl⟩

theorem strictSorted_insert (x : Id) (l : List Id) (h : StrictSorted l) : StrictSorted (insertSorted x l) := by
  induction l with
  | nil => trivial
  | cons z zs ih =>
    rw [insertSorted]
    by_cases h1 : strLt x z = true
    · rw [if_pos h1]; exact ⟨h1, h⟩
    · rw [if_neg h1]
      by_cases h2 : strLt z x = true
      · -- `z` stays the head: it is below `x` and below the rest
        rw [if_pos h2]
        obtain ⟨hz, hzs⟩ := strictSorted_cons.mp h
        refine strictSorted_cons.mpr ⟨fun b hb => ?_, ih hzs⟩
        rcases (mem_insertSorted x b zs).mp hb with rfl | hb
        · exact h2
        · exact hz b hb
      · rw [if_neg h2]; exact h

theorem strictSorted_sortDedup (l : List Id) : StrictSorted (sortDedup l) := by
  induction l with
  | nil => trivial
  | cons x xs ih => exact strictSorted_insert x _ ih

/-! ## `Directory<T>` -/

theorem dirLoad_eq_ok {v : View} {exts : List Name} {d : Id} {ids : List Id} (h : dirLoad v exts d = .ok ids) :
    ∃ es, v.readDir d = .ok es ∧ ids = sortDedup (es.filterMap fun
      | .file id ext => if ext ∈ exts then some id else none
      | .dir _ => none) := by
  unfold dirLoad selectIds at h
  cases hr : v.readDir d with
  | err e => rw [hr] at h; cases h
  | ok es => rw [hr] at h; cases h; exact ⟨es, rfl, rfl⟩

/-- `load_dir::<T>(d)`: the ids are strictly sorted (no duplicates) and are exactly the ids of the
files listed directly in `d` that carry one of `T`'s extensions. The empty-string extension,
overlapping extension lists and the root `""` are instances. -/
theorem C11_dir_ids (v : View) (exts : List Name) (d : Id) (ids : List Id) (h : dirLoad v exts d = .ok ids) :
    StrictSorted ids ∧
    ∃ es, v.readDir d = .ok es ∧ ∀ id, id ∈ ids ↔ ∃ e ∈ exts, Entry.file id e ∈ es := by
  obtain ⟨es, hr, rfl⟩ := dirLoad_eq_ok h
  refine ⟨strictSorted_sortDedup _, es, hr, fun id => ?_⟩
  rw [mem_sortDedup, List.mem_filterMap]
  constructor
  · rintro ⟨e, he, h⟩
    cases e with
    | dir _ => cases h
    | file i x =>
      dsimp only at h
      split at h
      · cases h; exact ⟨x, ‹_›, he⟩
      · cases h
  · rintro ⟨x, hx, he⟩
    exact ⟨.file id x, he, if_pos hx⟩

example : dirLoad (sem ⟨[⟨[], ['m'], ['a'], []⟩, ⟨[], ['m'], ['b'], []⟩, ⟨[], ['k'], [], []⟩], []⟩) [['a'], ['b'], []] [] =
    .ok [['k'], ['m']] := by decide +kernel

/-- A missing (or unreadable) directory is an error, the same error the source reported. -/
theorem C11_missing_is_error (v : View) (exts : List Name) (d : Id) (e : Err) (h : v.readDir d = .err e) :
    dirLoad v exts d = .err e ∧ ∀ n, recLoad (n + 1) v exts d = some (.err e) := by
  have h1 : dirLoad v exts d = .err e := by rw [dirLoad, selectIds, h]
  exact ⟨h1, fun n => by rw [recLoad, h1]⟩

/-! ## `RecursiveDirectory<T>` -/

/-- `d'` is `d` or lies below it through readable directories: every directory on the way
(`d` included, `d'` excluded) could be listed and lists the next one. -/
inductive Below (v : View) : Id → Id → Prop
  | refl (d : Id) : Below v d d
  | step {d c d' : Id} {es : List Entry} : v.readDir d = .ok es → Entry.dir c ∈ es → Below v c d' → Below v d d'

theorem subDirs_eq_ok {v : View} {d : Id} {subs : List Id} (h : subDirs v d = .ok subs) :
    ∃ es, v.readDir d = .ok es ∧ ∀ c, c ∈ subs ↔ Entry.dir c ∈ es := by
  unfold subDirs at h
  cases hr : v.readDir d with
  | err e => rw [hr] at h; cases h
  | ok es =>
    rw [hr] at h; cases h
    refine ⟨es, rfl, fun c => ?_⟩
    rw [List.mem_filterMap]
    constructor
    · rintro ⟨e, he, h⟩
      cases e with
      | file _ _ => cases h
      | dir i => cases h; exact he
    · exact fun he => ⟨.dir c, he, rfl⟩

theorem below_readable {v : View} {exts : List Name} {c d' : Id} {own : List Id}
    (hb : Below v c d') (hl : dirLoad v exts d' = .ok own) : ∃ esc, v.readDir c = .ok esc := by
  cases hb with
  | refl => obtain ⟨es, hr, _⟩ := dirLoad_eq_ok hl; exact ⟨es, hr⟩
  | step h1 _ _ => exact ⟨_, h1⟩

/-- A load fails only with the error of listing the directory itself (the converse of `C11_missing_is_error`). -/
theorem recLoad_eq_err {n : Nat} {v : View} {exts : List Name} {c : Id} {e : Err}
    (h : recLoad n v exts c = some (.err e)) : v.readDir c = .err e := by
  cases n with
  | zero => cases h
  | succ m =>
    unfold recLoad dirLoad selectIds subDirs at h
    cases hr : v.readDir c with
    | err e' => rw [hr] at h; cases h; rfl
    | ok es => rw [hr] at h; dsimp only at h; split at h <;> cases h

/-- A successful `load_rec_dir` lists the directory's own ids, then those of every sub-directory
whose load succeeded (none ran out of fuel). -/
theorem recLoad_succ_eq_ok {n : Nat} {v : View} {exts : List Name} {d : Id} {ids : List Id}
    (h : recLoad (n + 1) v exts d = some (.ok ids)) :
    ∃ own subs, dirLoad v exts d = .ok own ∧ subDirs v d = .ok subs ∧
      (∀ c ∈ subs, ∃ r, recLoad n v exts c = some r) ∧
      ids = own ++ ((subs.map fun c => recLoad n v exts c).filterMap okIds).flatten := by
  rw [recLoad] at h
  cases hown : dirLoad v exts d with
  | err e => rw [hown] at h; cases h
  | ok own =>
    cases hsub : subDirs v d with
    | err e => rw [hown, hsub] at h; cases h
    | ok subs =>
      rw [hown, hsub] at h
      dsimp only at h
      split at h
      · cases h
      · rename_i hnone
        cases h
        refine ⟨own, subs, rfl, rfl, fun c hc => ?_, rfl⟩
        cases hr : recLoad n v exts c with
        | some r => exact ⟨r, rfl⟩
        | none => exact absurd (List.any_eq_true.mpr ⟨none, List.mem_map.mpr ⟨c, hc, hr⟩, rfl⟩) hnone

/-- `load_rec_dir::<T>(d)` lists exactly the ids `load_dir` lists for `d` and for every directory
below it that is reachable through *readable* directories (a directory whose own listing fails
contributes nothing and hides nothing but its own subtree). -/
theorem C11_rec_ids (n : Nat) (v : View) (exts : List Name) (d : Id) (ids : List Id)
    (h : recLoad n v exts d = some (.ok ids)) (id : Id) :
    id ∈ ids ↔ ∃ d' own, Below v d d' ∧ dirLoad v exts d' = .ok own ∧ id ∈ own := by
  induction n generalizing d ids with
  | zero => cases h
  | succ n ih =>
    obtain ⟨own, subs, hown, hsub, hall, rfl⟩ := recLoad_succ_eq_ok h
    obtain ⟨es, hes, hsubs⟩ := subDirs_eq_ok hsub
    simp only [List.mem_append, List.mem_flatten, List.mem_filterMap, List.mem_map]
    constructor
    · rintro (h | ⟨l, ⟨o, ⟨c, hc, rfl⟩, ho⟩, hl⟩)
      · exact ⟨d, own, .refl d, hown, h⟩
      · cases hr : recLoad n v exts c with
        | none => rw [hr] at ho; cases ho
        | some r =>
          cases r with
          | err e => rw [hr] at ho; cases ho
          | ok cids =>
            rw [hr] at ho; cases ho
            obtain ⟨d', own', hb, hl', hm⟩ := (ih c _ hr).mp hl
            exact ⟨d', own', .step hes ((hsubs c).mp hc) hb, hl', hm⟩
    · rintro ⟨d', own', hb, hl', hm⟩
      cases hb with
      | refl => left; rw [hown] at hl'; cases hl'; exact hm
      | step hes' hce hb' =>
        rename_i c es'
        right
        cases hes.symm.trans hes'
        have hc : c ∈ subs := (hsubs c).mpr hce
        obtain ⟨r, hr⟩ := hall c hc
        cases r with
        | ok cids =>
          exact ⟨cids, ⟨some (.ok cids), ⟨c, hc, hr⟩, rfl⟩, (ih c cids hr).mpr ⟨d', own', hb', hl', hm⟩⟩
        | err e =>
          -- `c` is on a readable path, so its own load cannot have failed
          obtain ⟨esc, hesc⟩ := below_readable hb' hl'
          rw [recLoad_eq_err hr] at hesc
          cases hesc

/-- An unreadable sub-directory is skipped without hiding its siblings: whatever happens to the
other children of `d` (their own load may fail), the directory's own ids and all ids of every
child `s` that could be loaded are in the listing of `d`. -/
theorem C11_unreadable_child_skipped (n : Nat) (v : View) (exts : List Name) (d : Id) (ids : List Id)
    (h : recLoad (n + 1) v exts d = some (.ok ids)) :
    (∀ own, dirLoad v exts d = .ok own → ∀ id ∈ own, id ∈ ids) ∧
    (∀ es s sids, v.readDir d = .ok es → Entry.dir s ∈ es → recLoad n v exts s = some (.ok sids) →
      ∀ id ∈ sids, id ∈ ids) := by
  constructor
  · intro own hown id hid
    exact (C11_rec_ids _ v exts d ids h id).mpr ⟨d, own, .refl d, hown, hid⟩
  · intro es s sids hes hs hsl id hid
    obtain ⟨d', own, hb, hl, hm⟩ := (C11_rec_ids n v exts s sids hsl id).mp hid
    exact (C11_rec_ids _ v exts d ids h id).mpr ⟨d', own, .step hes hs hb, hl, hm⟩

/-- root with files `k`, `u/m.a`, `w/z.a`; `u` is unreadable: `w`'s ids stay. -/
example : recLoad 8 (denyDirs (sem ⟨[⟨[], ['k'], ['a'], []⟩, ⟨[['u']], ['m'], ['a'], []⟩, ⟨[['w']], ['z'], ['a'], []⟩],
    [[['u']], [['w']]]⟩) [['u']]) [['a']] [] = some (.ok [['k'], ['w', '.', 'z']]) := by decide +kernel

/-- Under a tree-like view (every listed entry names the listing directory as its parent and
listings have no duplicates) distinct directories contribute distinct ids; stated for the
specification view in `C11_rec_nodup_example`; the general statement over trees is tied by the
`dir` engine's oracle (no duplicates in any recursive listing). -/
theorem C11_rec_own_first (n : Nat) (v : View) (exts : List Name) (d : Id) (ids : List Id)
    (h : recLoad (n + 1) v exts d = some (.ok ids)) :
    ∃ own rest, dirLoad v exts d = .ok own ∧ ids = own ++ rest := by
  obtain ⟨own, _, hown, _, _, rfl⟩ := recLoad_succ_eq_ok h
  exact ⟨own, _, hown, rfl⟩

/-! ## `iter` / `iter_cached` -/

/-- `iter` loads precisely the directory's ids, in order. -/
theorem C11_iter {α} (ids : List Id) (load : Id → α) :
    (iter ids load).length = ids.length ∧ ∀ i (h : i < ids.length), (iter ids load)[i]? = some (load ids[i]) := by
  refine ⟨by simp [iter], fun i h => ?_⟩
  simp [iter, List.getElem?_eq_getElem h]

/-- `iter_cached` yields precisely the already cached ones among the directory's ids, in order
(`key` recovers the id of a handle). -/
theorem C11_iter_cached {α} (ids : List Id) (getCached : Id → Option α) (key : α → Id)
    (hk : ∀ i a, getCached i = some a → key a = i) :
    (iterCached ids getCached).map key = ids.filter (fun i => (getCached i).isSome) := by
  induction ids with
  | nil => rfl
  | cons i is ih =>
    simp only [iterCached, List.filterMap_cons, List.filter_cons] at ih ⊢
    cases h : getCached i with
    | none => simpa using ih
    | some a => simp [hk i a h, ih]

/-- `Directory<Arc<T>>` / `RecursiveDirectory<Arc<T>>` list exactly what the `T` versions list: `impl DirLoadable for
Arc<T>` forwards `select_ids` and `sub_directories` to `T` (the trait's default `sub_directories` would walk the source's
directories instead of `T`'s). -/
theorem C11_arc_lists_like_inner : AmVerif.Gen.arcDirLoadableForwards = true := by decide

end AmVerif.Props.C11
