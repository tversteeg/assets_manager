import AmVerif.Lemmas.History
import AmVerif.Gen.TabLock
/-!
# C05 — hot-reloading converges: cached values follow the source, transitively

What is proved here, for every graph, every set of events and every loader program:
the reload list of a pass is exactly the set of registered assets that (transitively) depend on a
notified entry, each once, dependencies before dependents; the reverse-dependency index the sort
walks is the exact inverse of the recorded dependencies at all times; a successful reload
re-learns the dependency set, a failed one keeps value and dependencies and adds what the failed
attempt read; events for entries the graph does not know are dropped, all others are kept; events
sent before `hot_reload` are taken before the update (skeleton of the thread loop).
**Semantic convergence** ("the cached value equals a fresh load") is proved for one update pass
(`C05_pass_converges_partial`, `C05_hot_reload_converges_partial`) from read-set determinacy
(`C05_read_set_determinacy`): after the pass every registered cached asset is `Settled` — it holds
what re-evaluating its loader against the new source and the current cache returns, and its node
holds what that evaluation reads. **Partial**: the unrestricted statement is false of the code and of
the model in the two order-dependent situations recorded as known findings; they are excluded by
named hypotheses (`NoMissInPass` for F-C05d, `NoRewireOntoPending` for F-C05e) and each is shown to be
necessary by a concrete counterexample (`C05_full_statement_false_miss`,
`C05_full_statement_false_rewire`). Reads under `no_record`, on helper threads, inside
`catch_unwind(no_record(..))` and through `load_owned` are outside the statement (a tracked hit-only
run meets none of them), as are assets of types that are not hot-reloaded.
**Loading establishes and preserves `Settled`** (`C05_load_settles_partial`, over histories of loads and
`hot_reload`s `C05_history_settled_partial`, combined with a pass `C05_load_edit_reload_converges_partial`):
after a load and after the reloader has taken its registrations, every registered cached asset —
those the load cached on the way included — is settled, under the named hypotheses `CleanLoad` (no
absorbed failure of a nested load, no `get_cached` probe of a key that is cached before the load
returns) and `NoProbedKeyFilled`; each is necessary (`C05_load_settles_false_absorbed`,
`C05_load_settles_false_probe`, `C05_load_preserves_false_fill`). No hypothesis on fuel or result.
**Static mode** (`enhance_hot_reloading`): the cache follows the source by itself — one batch of events is
applied when `handle_events` returns (`C05_static_events_converge_pending_partial`: registrations of earlier
loads may still be in the channel; from a drained channel `C05_static_events_converge_partial`), the switch
applies what was notified and not applied yet (`C05_enhance_converges_pending_partial`,
`C05_enhance_converges_partial`) — with `C05_hot_reload_converges_partial` the entry points' instances of one
statement about a reloader step that runs a pass (`hstep_pass_converges`, `Lemmas/StaticMode.lean`) —,
`hot_reload()` is a no-op (`C05_hot_reload_static_idle`), and over histories of loads, `hot_reload()`s,
notifications and switches under one environment everything is settled after every reloader step
(`C05_static_history_partial`, which contains `C05_history_settled_partial`: `C05_static_history_extends`).
The pass is the same `run_update`: same named hypotheses, on the steps of the pass the entry point runs;
both stay necessary in static mode (`C05_static_statement_false_rewire`, `C05_static_statement_false_miss`).
**Histories with `clear` and `load_owned`** (`Lemmas/Channel.lean`, `Lemmas/History.lean`): `C05_history_with_clear_partial` extends
`C05_static_history_partial` with `clear` steps (no hypothesis: the registrations still in the channel become
stale, and the last registration of a key wins — `C05_last_registration_wins`),
`C05_history_with_load_owned_partial` extends it further with `load_owned` from the API (a registration for a
key that is not cached; the assets cached on the way are registered as by a load). `load_owned` nested in a
loader is outside `Settled` by definition (`C05_nested_load_owned_never_settled`).
-/
namespace AmVerif.Props.C05
open AmVerif.Gen AmVerif.Model AmVerif.Lemmas.TopoGraph AmVerif.Lemmas.Topo

/-! ## Read off the source: regenerated flags and effect skeletons -/

/-- The repaired behaviours this property needs are present in the source (regenerated flags). -/
theorem C05_cfg_ok :
    failedLoadRecordsToParent = true ∧ failedReloadKeepsNewDeps = true ∧ visitMarksFirst = true := by decide

/-- Events sent before the request are taken into `to_reload` before the update of that request
runs, and the caller is answered only after the update (regenerated thread loop, `Ptr` arm). -/
theorem C05_barrier_skeleton :
    (match skel_hot_reloading_mod_hot_reloading_thread with
     | [_, _, .loop [_, .loop [_, .branch (ptr :: _)], _]] => ptr
     | _ => []) =
    [.loop [.call .s_try_recv, .branch [[.call .s_handle_events], []]], .call .s_update_if_local, .call .s_notify] := rfl

/-- "After `hot_reload` returns" means after the caller's OWN request was served: `Answers::wait_for_answer` waits with the
crate's `Condvar::wait_while`, which re-checks the token after every wake-up in both lock implementations (one condition
variable is shared by all callers and woken with `notify_all`). -/
theorem C05_wait_while_rechecks : waitWhileRechecksStd = true ∧ waitWhileRechecksParkingLot = true := by decide

/-- Every successful load registers its dependency set with the reloader, empty or not (`HotReloader::add_asset` sends
unconditionally): a key loaded again after a removal gets its OLD dependencies replaced. -/
theorem C05_add_asset_always_sends :
    AmVerif.Gen.skel_hot_reloading_mod_HotReloader_add_asset = [.call .s_AddAsset, .call .s_send] := rfl

/-- The reloader finds the entry it has to rewrite with the same `AssetMap::get` as every reader: a blocking read lock on the shard,
so a concurrent insertion into that shard delays the look-up but never turns it into a miss (a missed look-up would skip the reload
and consume the change). -/
theorem C05_get_waits_for_the_shard :
    AmVerif.Gen.skel_cache_AssetMap_for_AssetMap_get = [.call .s_get_shard, .acq .s_read 0, .call .s_get, .try_, .rel 0] := rfl

/-- Value-level facts of the `hot_reload` handshake that no effect skeleton shows: a caller waits for exactly its own token, the
reloader publishes only into an empty slot, tokens are distinct, `notify_all` wakes every sleeper; and a request takes in the events
that were sent before it (the loop is bounded by the length of the EVENT channel). -/
theorem C05_handshake_values : AmVerif.Gen.answersHandshakeExact = true ∧ AmVerif.Gen.requestTakesPendingEvents = true := by decide

/-! ## The dependency index -/

/-- Graph well-formedness maintained by the reloader: `rdeps` is the exact inverse of `deps`. -/
def GraphOK (g : Graph) : Prop := g.Inverse ∧ g.InverseRev

theorem graphOK_nil : GraphOK [] := ⟨inverse_nil, inverseRev_nil⟩

/-- Registering an asset (first load, or successful reload: `DepsGraph::insert`) keeps it exact. -/
theorem C05_insert_keeps_inverse (g : Graph) (h : GraphOK g) (a : Dep) (deps : List Dep) :
    GraphOK (g.insertAsset a deps) := ⟨inverse_insertAsset h.1 a deps, inverseRev_insertAsset h.2 a deps⟩

/-- Adding what a failed reload read (`DepsGraph::add_deps`, only ever called on a registered
asset) keeps it exact. -/
theorem C05_add_deps_keeps_inverse (g : Graph) (h : GraphOK g) (a : Dep) (deps : List Dep) (ha : g.get a ≠ none) :
    GraphOK (g.addDeps a deps) := ⟨inverse_addDeps h.1 a deps, inverseRev_addDeps h.2 a deps ha⟩

/-- **Every step of the reloader thread keeps the index exact**, whatever the reloads do: taking a registration is
an `insert`, a reload ends in an `insert` or in an `add_deps` on the registered asset. So the conclusion of
`C05_pass_converges_partial`, together with this, re-establishes `hset`, `hG`, `hlive` and the drained channel for
the next pass. -/
theorem graphOK_reloaderInv (env : Env) (fuel : Nat) : ReloaderInv env fuel (fun _ g => GraphOK g) :=
  .of_graph (fun g a deps h => C05_insert_keeps_inverse g h a deps) (fun g a deps ha h => C05_add_deps_keeps_inverse g h a deps ha)

/-- Draining the `AddAsset` / `Clear` messages keeps it exact. -/
theorem C05_processMsgs_graphOK (s : St) (r : RSt) (h : GraphOK r.graph) : GraphOK (processMsgs s r).2.graph :=
  drain_inv (fun r => GraphOK r.graph) (fun _ _ _ h => C05_insert_keeps_inverse _ h _ _) (fun _ h => h) s.out r h

theorem graphOK_hstep (fuel : Nat) (e : Env × HOp) (x : St × RSt) (h : GraphOK x.2.graph) :
    GraphOK (hstep fuel e x).2.graph :=
  (graphOK_reloaderInv e.1 fuel).hstep e.2 x (fun _ _ => h) h

/-- **The dependency index is exact in every reachable state** of a cache with its reloader. -/
theorem C05_history_keeps_graphOK (fuel : Nat) (h : List (Env × HOp)) (x : St × RSt)
    (hx : GraphOK x.2.graph) : GraphOK (runH fuel h x).2.graph :=
  runH_inv fuel (fun x => GraphOK x.2.graph) h (fun e _ => graphOK_hstep fuel e) x hx

example : GraphOK (Graph.insertAsset [] (.asset ⟨0, "a"⟩) [.file "a" "s"]) :=
  C05_insert_keeps_inverse [] graphOK_nil _ _

/-! ## The reload list of a pass -/

/-- **Exactly the affected assets**: an asset is reloaded in a pass iff it is registered and
reachable from a changed entry along reverse dependencies — nothing else is re-read. -/
theorem C05_reload_list_exact (g : Graph) (fuel : Nat) (changed : List Dep) (keys : List Key)
    (h : topo g fuel changed = some keys) (k : Key) :
    k ∈ keys ↔ (g.get (.asset k) ≠ none ∧ ∃ c ∈ changed, Reach g.rdepsOf c (.asset k)) :=
  ⟨topo_only_reachable h k, fun ⟨hg, c, hc, hr⟩ => topo_complete h c hc k hr hg⟩

/-- each at most once -/
theorem C05_reload_list_nodup (g : Graph) (fuel : Nat) (changed : List Dep) (keys : List Key)
    (h : topo g fuel changed = some keys) : keys.Nodup := topo_nodup h

/-- **Dependencies are refreshed before their dependents** (on acyclic dependency graphs): every
registered asset that depends on `k` comes after `k` in the reload list. -/
theorem C05_deps_before_dependents (g : Graph) (hR : g.InverseRev) {rank : Dep → Nat}
    (hr : ∀ a rs b, g.rdepsOf a = some rs → b ∈ rs → rank b < rank a)
    (fuel : Nat) (changed : List Dep) (keys : List Key) (h : topo g fuel changed = some keys) :
    ∀ pre k post, keys = pre ++ k :: post → ∀ rs, g.rdepsOf (.asset k) = some rs → ∀ k', Dep.asset k' ∈ rs → k' ∈ post := by
  intro pre k post hk rs hrs k' hk'
  exact topo_order hr h pre k post hk rs hrs k' hk' (rdeps_in_graph hR hrs hk')

/-- The sort always returns (cyclic look-ups included) once the fuel exceeds the number of nodes. -/
theorem C05_sort_returns (g : Graph) (changed : List Dep) (fuel : Nat) (hf : g.length + 1 ≤ fuel) :
    ∃ keys, topo g fuel changed = some keys := topo_terminates g fuel hf changed

/-! ## Events -/

/-- An event is kept for the next pass iff the graph knows the entry (something recorded it);
events for unknown entries are dropped, duplicates collapse. -/
theorem C05_event_kept_iff_tracked (g : Graph) (l : List Dep) (e : Dep) :
    (if (g.get e).isSome then addIfAbsent e l else l) = (if (g.get e).isSome then (if e ∈ l then l else l ++ [e]) else l) := rfl

/-! ## One reload -/

/-- **A failed reload keeps the previous value** (and reload id): the cell is untouched; the asset
keeps its dependencies and additionally depends on what the failed attempt read, so it recovers at
the next change of any of them. -/
theorem C05_failed_reload_keeps (env : Env) (fuel : Nat) (s : St) (key : Key) (c : Cell)
    (hc : s.lookup key = some c) (hdyn : c.dyn = true) (e : LErr)
    (hfail : (withFrame true (some []) (fun s => eval env fuel s ((env.types key.ty).prog key.id)) { s with recs := [] }).2.1 = .err e) :
    (reloadUntyped env fuel s key).1.lookup key = some c ∧
    (reloadUntyped env fuel s key).2 = .done (some ((withFrame true (some []) (fun s => eval env fuel s ((env.types key.ty).prog key.id)) { s with recs := [] }).2.2, false)) := by
  change (reloadEval env fuel s key).2.1 = .err e at hfail
  show _ ∧ _ = ReloadOutcome.done (some ((reloadEval env fuel s key).2.2, false))
  have hle := reloadEval_le env fuel s key key c hc
  rw [reloadUntyped_dyn env fuel s key c hc hdyn]
  generalize reloadEval env fuel s key = y at hfail hle
  obtain ⟨s1, o, d⟩ := y
  cases hfail
  -- `failedReloadKeepsNewDeps`, regenerated, is `true`
  exact ⟨hle, rfl⟩

/-! ## Semantic convergence of one update pass -/

/-- **Read-set determinacy of a reload** (the core lemma, `Lemmas/ReadSet.lean`): if re-evaluating
the loader of `key` under `(env, s)` is a tracked hit-only run — plain constructors on its path,
every `.load` a hit, every look-up recorded — and `(env', t)` agrees with `(env, s)` on every entry it
records (same file / directory content, same cached value or absent in both), then re-evaluating it
under `(env', t)` is a tracked hit-only run with the same outcome and the same record. -/
theorem C05_read_set_determinacy (env env' : Env) (hS : env.Steady) (hS' : env'.Steady) (hL : SameLoaders env env')
    (fuel : Nat) (s t : St) (key : Key) (hh : reloadHit env fuel s key = true)
    (hag : ∀ d ∈ reloadDeps env fuel s key, AgreeOn env env' s t d) :
    reloadHit env' fuel t key = true ∧ reloadOut env' fuel t key = reloadOut env fuel s key ∧
    reloadDeps env' fuel t key = reloadDeps env fuel s key ∧
    (reloadEval env fuel s key).1.map = s.map ∧ (reloadEval env' fuel t key).1.map = t.map := by
  obtain ⟨h1, h2, h3⟩ := reloadEval_readset hS hS' hL fuel s t key hh hag
  exact ⟨h1, h2, h3, reloadHit_map hh, reloadHit_map h1⟩

/-- **Processing one key of a pass** keeps the invariant `PInv` (assets that are not pending are
settled under the new source and read no pending asset; pending assets still have the dependencies
the list was sorted with). -/
theorem C05_pass_step (env' : Env) (hS' : env'.Steady) (fuel : Nat) (g0 : Graph) (k : Key) (rest : List Key)
    (s : St) (r : RSt)
    (hinv : PInv env' fuel g0 (k :: rest) s r.graph) (hdead : r.dead = false)
    (hnd : (k :: rest).Nodup) (hord : DepsFirst g0 (k :: rest))
    (hmiss : NoMissInPass env' fuel [⟨k, rest, s, r⟩])
    (hret : ReloadsReturn env' fuel [⟨k, rest, s, r⟩])
    (hrewire : NoRewireOntoPending env' fuel [⟨k, rest, s, r⟩]) :
    PInv env' fuel g0 rest (reloadAll env' fuel [k] (s, r)).1 (reloadAll env' fuel [k] (s, r)).2.graph ∧
    (reloadAll env' fuel [k] (s, r)).2.dead = false ∧ (reloadAll env' fuel [k] (s, r)).1.out = s.out :=
  pinv_step hS' hinv hdead hnd hord (hmiss _ List.mem_cons_self) (hret _ List.mem_cons_self)
    (hrewire _ List.mem_cons_self)


/-- **One update pass converges** (partial: the two situations in which the full statement is
false are excluded by the named hypotheses `hmiss` and `hrewire`).

Setting: `env` is the source before the edits, `env'` after; both without fault plan (`Steady`),
same loaders (`SameLoaders`). `s`, `r` are the cache and the reloader's data when `run_update`
starts (messages drained, events taken into `r.toReload`).

Hypotheses:
* `hset` — before the edits everything was settled: every registered, cached, dynamic asset holds
  what re-evaluating its loader against `env` and the cache gives (or that re-evaluation fails),
  the evaluation being a tracked hit-only run whose reads are the node's dependencies;
* `hG`, `hrank` — the graph's `rdeps` is the inverse of `deps`, and look-ups are acyclic;
* `hlive`, `hfuel` — the reloader is alive and the sort has enough fuel;
* `hfile`, `hdir` — `env'` differs from `env` only on entries of `changed`;
* `hnotified` — every changed entry the graph knows has been notified (is in `r.toReload`);
* `hmiss` — **excludes F-C05d**: every re-evaluation of this pass is a tracked hit-only run: on its
  path only `ret / fail / panic / read / readDir / getCached / load / tick` (no `loadOwned`, no
  unrecorded reads under `noRecord` / `onThread` / `tryCatch`), every look-up recorded (hot type),
  and no `.load` of an asset that is not cached yet;
* `hret` — every re-evaluation of this pass returns a value or an error (a panic is caught and
  leaves the graph without the new dependencies; exhausted fuel kills the thread);
* `hrewire` — **excludes F-C05e**: no re-evaluation of this pass acquires a NEW dependency on the
  asset itself or on an asset that is reloaded LATER in this pass. (Old dependencies are never
  reloaded later: `C05_deps_before_dependents`.)

Conclusion: after the pass every registered, cached, dynamic asset holds exactly what re-evaluating
its loader against the new source and the current cache returns (or that re-evaluation fails and the
entry kept its previous value), and the graph holds exactly what that evaluation reads (for a failing
one: at least what it reads); the reloader is alive; the pass sent no message to the reloader (no
asset was registered behind the sort's back). -/
theorem C05_pass_converges_partial (env env' : Env) (fuel : Nat) (s : St) (r : RSt) (changed : List Dep)
    {rank : Dep → Nat}
    (hS : env.Steady) (hS' : env'.Steady) (hL : SameLoaders env env')
    (hset : Settled env fuel s r.graph) (hG : GraphOK r.graph)
    (hrank : ∀ a rs b, r.graph.rdepsOf a = some rs → b ∈ rs → rank b < rank a)
    (hlive : r.dead = false) (hfuel : r.graph.length + 1 ≤ fuel)
    (hfile : ∀ id ext, Dep.file id ext ∉ changed → env'.read 0 id ext = env.read 0 id ext)
    (hdir : ∀ id, Dep.dir id ∉ changed → env'.readDir 0 id = env.readDir 0 id)
    (hnotified : ∀ d, d ∈ changed → r.graph.get d ≠ none → d ∈ r.toReload)
    (hmiss : NoMissInPass env' fuel (updateSteps env' fuel s r))
    (hret : ReloadsReturn env' fuel (updateSteps env' fuel s r))
    (hrewire : NoRewireOntoPending env' fuel (updateSteps env' fuel s r)) :
    Settled env' fuel (runUpdate env' fuel s r).1 (runUpdate env' fuel s r).2.graph ∧
    (runUpdate env' fuel s r).2.dead = false ∧ (runUpdate env' fuel s r).1.out = s.out :=
  have h := runUpdate_converges hS hS' hL hset hG.1 hrank hlive hfuel hfile hdir hnotified hmiss hret hrewire
  ⟨h.1, h.2.1, h.2.2.1⟩

/-- **`hot_reload()` converges** (local mode, no pending `AddAsset` messages): the same statement for
the whole request — drain the messages, run the pass, drain the messages the pass produced (none,
under `hmiss`). The hypotheses are those of `C05_pass_converges_partial`. -/
theorem C05_hot_reload_converges_partial (env env' : Env) (fuel : Nat) (s : St) (r : RSt) (changed : List Dep)
    {rank : Dep → Nat}
    (hS : env.Steady) (hS' : env'.Steady) (hL : SameLoaders env env')
    (hset : Settled env fuel s r.graph) (hG : GraphOK r.graph)
    (hrank : ∀ a rs b, r.graph.rdepsOf a = some rs → b ∈ rs → rank b < rank a)
    (hlive : r.dead = false) (hfuel : r.graph.length + 1 ≤ fuel)
    (hdrained : s.out = []) (hlocal : r.static_ = false)
    (hfile : ∀ id ext, Dep.file id ext ∉ changed → env'.read 0 id ext = env.read 0 id ext)
    (hdir : ∀ id, Dep.dir id ∉ changed → env'.readDir 0 id = env.readDir 0 id)
    (hnotified : ∀ d, d ∈ changed → r.graph.get d ≠ none → d ∈ r.toReload)
    (hmiss : NoMissInPass env' fuel (updateSteps env' fuel s r))
    (hret : ReloadsReturn env' fuel (updateSteps env' fuel s r))
    (hrewire : NoRewireOntoPending env' fuel (updateSteps env' fuel s r)) :
    Settled env' fuel (hotReload env' fuel s r).1 (hotReload env' fuel s r).2.graph ∧
    (hotReload env' fuel s r).2.dead = false := by
  have e : prePass .hotReload (s, r) = (s, r) := processMsgs_nil s r hdrained
  obtain ⟨h1, h2, _⟩ := hstep_pass_converges hS hS' hL .hotReload (x := (s, r)) (changed := changed)
    ((Pending.of_settled hdrained hset).drain hS) hG.1 hlive (congrArg (!·) hlocal) hfile hdir
    (by rw [e]; exact hnotified) (by rw [e]; exact ⟨⟨rank, hrank⟩, hfuel, hmiss, hret, hrewire⟩)
  exact ⟨h1, h2⟩

/-! ## Concrete instances: non-vacuity, and the two refutations of the unrestricted statement -/

/-- scripts of a tiny asset type, as bytes: `[n]` is the script `n`, `[n, 0]` is `n +S0:e`,
`[n, _]` is `n +S0:n` -/
def exToks : List UInt8 → Option (List Tok)
  | [n] => some [.lit n.toNat]
  | [n, t] => some [.lit n.toNat, .load 0 (if t = 0 then "e" else "n")]
  | _ => none

/-- read `id.s`, interpret the script (`scriptProg` of `Model/Types.lean`) -/
def exProg (id : String) : Prog :=
  .read id "s" fun r =>
    match r with
    | .error e => .fail (.io e)
    | .ok bytes =>
      match exToks bytes with
      | none => .fail (.custom "parse")
      | some toks => scriptProg toks 0

/-- a source with the files `b.s`, `e.s` and `n.s` (always the script `0 +S0:e`); one hot-reloaded
type; a cache with reloader -/
def exEnv (b e : List UInt8) : Env :=
  { read := fun _ id ext =>
      if id = "b" ∧ ext = "s" then .ok b
      else if id = "e" ∧ ext = "s" then .ok e
      else if id = "n" ∧ ext = "s" then .ok [0, 0]
      else .error ⟨true, "NotFound", id⟩
    readDir := fun _ _ => .ok []
    types := fun _ => { hot := true, prog := exProg }
    hasReloader := true }

def kb : Key := ⟨0, "b"⟩
def ke : Key := ⟨0, "e"⟩

theorem exEnv_steady (b e : List UInt8) : (exEnv b e).Steady := ⟨fun _ _ _ _ => rfl, fun _ _ _ => rfl, fun _ _ => rfl⟩
theorem exEnv_same (b e b' e' : List UInt8) : SameLoaders (exEnv b e) (exEnv b' e') := ⟨rfl, rfl, fun _ _ => rfl⟩

/-- files rank above `e`, `e` above the other assets -/
def exRank : Dep → Nat
  | .asset k => if k = ke then 1 else 0
  | _ => 2

/-- a cache holding `e` and `b` with the given values -/
def exSt (vb ve : Int) : St :=
  { map := [(ke, ⟨.int ve, true, 0, false, 0⟩), (kb, ⟨.int vb, true, 0, false, 1⟩)], next := 2 }

/-- `b = 1 +S0:e`, `e = 10`, both loaded; `e.s` has been edited and notified -/
def exChain : RSt :=
  { graph := (Graph.insertAsset [] (.asset ke) [.file "e" "s"]).insertAsset (.asset kb) [.file "b" "s", .asset ke],
    toReload := [.file "e" "s"] }

theorem exChain_graphOK : GraphOK exChain.graph :=
  C05_insert_keeps_inverse _ (C05_insert_keeps_inverse [] graphOK_nil (.asset ke) [.file "e" "s"]) (.asset kb)
    [.file "b" "s", .asset ke]

theorem exEnv_unchanged_e (b e e' : List UInt8) :
    ∀ id ext, Dep.file id ext ∉ [Dep.file "e" "s"] → (exEnv b e').read 0 id ext = (exEnv b e).read 0 id ext := by
  intro id ext h
  have he : ¬ (id = "e" ∧ ext = "s") := fun h2 => h (by rw [h2.1, h2.2]; exact List.mem_singleton.mpr rfl)
  show (if id = "b" ∧ ext = "s" then _ else if id = "e" ∧ ext = "s" then _ else _) =
    (if id = "b" ∧ ext = "s" then _ else if id = "e" ∧ ext = "s" then _ else _)
  rw [if_neg he, if_neg he]

/-- **Non-vacuity** of `C05_pass_converges_partial`: the chain `b → e`, `e.s` edited from `10` to
`20`: all hypotheses hold; the computed pass gives `e = 20`, `b = 21`. -/
example :
    Settled (exEnv [1, 0] [20]) 10 (runUpdate (exEnv [1, 0] [20]) 10 (exSt 11 10) exChain).1
      (runUpdate (exEnv [1, 0] [20]) 10 (exSt 11 10) exChain).2.graph ∧
    (runUpdate (exEnv [1, 0] [20]) 10 (exSt 11 10) exChain).2.dead = false ∧
    (runUpdate (exEnv [1, 0] [20]) 10 (exSt 11 10) exChain).1.out = [] :=
  C05_pass_converges_partial (exEnv [1, 0] [10]) (exEnv [1, 0] [20]) 10 (exSt 11 10) exChain [.file "e" "s"]
    (rank := exRank) (exEnv_steady _ _) (exEnv_steady _ _) (exEnv_same _ _ _ _)
    (settled_of_check (by decide)) exChain_graphOK (rank_of_entries (by decide)) rfl (by decide)
    (exEnv_unchanged_e _ _ _)
    (fun _ _ => rfl) (by decide)
    (noMiss_of_check (by decide)) (reloadsReturn_of_check (by decide)) (noRewire_of_check (by decide))

/-- the conclusion, checked on the computed pass -/
example :
    (runUpdate (exEnv [1, 0] [20]) 10 (exSt 11 10) exChain).1.lookup ke = some ⟨.int 20, true, 1, true, 0⟩ ∧
    (runUpdate (exEnv [1, 0] [20]) 10 (exSt 11 10) exChain).1.lookup kb = some ⟨.int 21, true, 1, true, 1⟩ ∧
    settledB (exEnv [1, 0] [20]) 10 (runUpdate (exEnv [1, 0] [20]) 10 (exSt 11 10) exChain).1
      (runUpdate (exEnv [1, 0] [20]) 10 (exSt 11 10) exChain).2.graph = true := by decide +kernel

/-- the same starting from a real history: `load b` (which loads `e`), `hot_reload` (drains the two
registrations), then `e.s` is edited and the event is handed to the reloader -/
def exHist : St × RSt :=
  runH 10 [(exEnv [1, 0] [10], .api (.load kb)), (exEnv [1, 0] [10], .hotReload),
    (exEnv [1, 0] [20], .notify [.file "e" "s"])] ({}, {})

example :
    Settled (exEnv [1, 0] [20]) 10 (hotReload (exEnv [1, 0] [20]) 10 exHist.1 exHist.2).1
      (hotReload (exEnv [1, 0] [20]) 10 exHist.1 exHist.2).2.graph ∧
    (hotReload (exEnv [1, 0] [20]) 10 exHist.1 exHist.2).2.dead = false :=
  C05_hot_reload_converges_partial (exEnv [1, 0] [10]) (exEnv [1, 0] [20]) 10 exHist.1 exHist.2 [.file "e" "s"]
    (rank := exRank) (exEnv_steady _ _) (exEnv_steady _ _) (exEnv_same _ _ _ _)
    (settled_of_check (by decide)) (C05_history_keeps_graphOK 10 _ _ graphOK_nil) (rank_of_entries (by decide))
    (by decide) (by decide) (by decide) (by decide)
    (exEnv_unchanged_e _ _ _) (fun _ _ => rfl) (by decide)
    (noMiss_of_check (by decide)) (reloadsReturn_of_check (by decide)) (noRewire_of_check (by decide))

example :
    (hotReload (exEnv [1, 0] [20]) 10 exHist.1 exHist.2).1.lookup ke = some ⟨.int 20, true, 1, true, 0⟩ ∧
    (hotReload (exEnv [1, 0] [20]) 10 exHist.1 exHist.2).1.lookup kb = some ⟨.int 21, true, 1, true, 1⟩ := by decide +kernel

/-- **The failure branch is inhabited, and the asset recovers**: `e.s` is edited to something that
does not parse (`[1, 2, 3]`), notified, `hot_reload`: `e` keeps `10`, `b` keeps `11`, everything is
settled (`e` through the failure branch). Then `e.s` is repaired to `30` and notified. -/
def exHistBroken : St × RSt :=
  runH 10 [(exEnv [1, 0] [1, 2, 3], .hotReload), (exEnv [1, 0] [30], .notify [.file "e" "s"])] exHist

/-- the pass over the broken file satisfies the hypotheses; `e` keeps its previous value -/
example :
    (Settled (exEnv [1, 0] [1, 2, 3]) 10 (hotReload (exEnv [1, 0] [1, 2, 3]) 10 exHist.1 exHist.2).1
      (hotReload (exEnv [1, 0] [1, 2, 3]) 10 exHist.1 exHist.2).2.graph ∧
     (hotReload (exEnv [1, 0] [1, 2, 3]) 10 exHist.1 exHist.2).2.dead = false) ∧
    (hotReload (exEnv [1, 0] [1, 2, 3]) 10 exHist.1 exHist.2).1.lookup ke = some ⟨.int 10, true, 0, false, 0⟩ ∧
    reloadOut (exEnv [1, 0] [1, 2, 3]) 10 (hotReload (exEnv [1, 0] [1, 2, 3]) 10 exHist.1 exHist.2).1 ke =
      .err (.custom "parse") :=
  ⟨C05_hot_reload_converges_partial (exEnv [1, 0] [10]) (exEnv [1, 0] [1, 2, 3]) 10 exHist.1 exHist.2 [.file "e" "s"]
    (rank := exRank) (exEnv_steady _ _) (exEnv_steady _ _) (exEnv_same _ _ _ _)
    (settled_of_check (by decide)) (C05_history_keeps_graphOK 10 _ _ graphOK_nil) (rank_of_entries (by decide))
    (by decide) (by decide) (by decide) (by decide)
    (exEnv_unchanged_e _ _ _) (fun _ _ => rfl) (by decide)
    (noMiss_of_check (by decide)) (reloadsReturn_of_check (by decide)) (noRewire_of_check (by decide)),
   by decide, by decide⟩

/-- the next pass (file repaired) satisfies the hypotheses again — `hset` now holds through the
failure branch for `e` — and the assets recover: `e = 30`, `b = 31` -/
example :
    (Settled (exEnv [1, 0] [30]) 10 (hotReload (exEnv [1, 0] [30]) 10 exHistBroken.1 exHistBroken.2).1
      (hotReload (exEnv [1, 0] [30]) 10 exHistBroken.1 exHistBroken.2).2.graph ∧
     (hotReload (exEnv [1, 0] [30]) 10 exHistBroken.1 exHistBroken.2).2.dead = false) ∧
    (hotReload (exEnv [1, 0] [30]) 10 exHistBroken.1 exHistBroken.2).1.lookup ke = some ⟨.int 30, true, 1, true, 0⟩ ∧
    (hotReload (exEnv [1, 0] [30]) 10 exHistBroken.1 exHistBroken.2).1.lookup kb = some ⟨.int 31, true, 2, true, 1⟩ :=
  ⟨C05_hot_reload_converges_partial (exEnv [1, 0] [1, 2, 3]) (exEnv [1, 0] [30]) 10 exHistBroken.1 exHistBroken.2
    [.file "e" "s"]
    (rank := exRank) (exEnv_steady _ _) (exEnv_steady _ _) (exEnv_same _ _ _ _)
    (settled_of_check (by decide)) (C05_history_keeps_graphOK 10 _ _ (C05_history_keeps_graphOK 10 _ _ graphOK_nil)) (rank_of_entries (by decide))
    (by decide) (by decide) (by decide) (by decide)
    (exEnv_unchanged_e _ _ _) (fun _ _ => rfl) (by decide)
    (noMiss_of_check (by decide)) (reloadsReturn_of_check (by decide)) (noRewire_of_check (by decide)),
   by decide, by decide⟩

/-- `b = 1`, `e = 10`, both loaded; both files have been edited, the events arrived as `e.s`, `b.s`
(the sort then yields `b` before `e`) -/
def exFlat : RSt :=
  { graph := (Graph.insertAsset [] (.asset ke) [.file "e" "s"]).insertAsset (.asset kb) [.file "b" "s"],
    toReload := [.file "e" "s", .file "b" "s"] }

theorem exFlat_graphOK : GraphOK exFlat.graph :=
  C05_insert_keeps_inverse _ (C05_insert_keeps_inverse [] graphOK_nil (.asset ke) [.file "e" "s"]) (.asset kb)
    [.file "b" "s"]

theorem exFlat_settled : Settled (exEnv [1] [10]) 10 (exSt 1 10) exFlat.graph := settled_of_check (by decide)

theorem exFlat_rank : ∀ a rs b, exFlat.graph.rdepsOf a = some rs → b ∈ rs → exRank b < exRank a :=
  rank_of_entries (by decide)

theorem exEnv_unchanged (b e b' e' : List UInt8) :
    ∀ id ext, Dep.file id ext ∉ [Dep.file "b" "s", Dep.file "e" "s"] →
      (exEnv b' e').read 0 id ext = (exEnv b e).read 0 id ext := by
  intro id ext h
  have hb : ¬ (id = "b" ∧ ext = "s") := fun h2 => h (by rw [h2.1, h2.2]; exact List.mem_cons_self)
  have he : ¬ (id = "e" ∧ ext = "s") := fun h2 =>
    h (by rw [h2.1, h2.2]; exact List.mem_cons_of_mem _ List.mem_cons_self)
  show (if id = "b" ∧ ext = "s" then _ else if id = "e" ∧ ext = "s" then _ else _) =
    (if id = "b" ∧ ext = "s" then _ else if id = "e" ∧ ext = "s" then _ else _)
  rw [if_neg hb, if_neg he, if_neg hb, if_neg he]

/-- a registered, cached, dynamic asset whose cached value is NOT what re-evaluating its loader
against the current source and cache returns -/
def StaleAt (env : Env) (fuel : Nat) (x : St × RSt) (k : Key) : Prop :=
  ∃ node c v, x.2.graph.get (.asset k) = some node ∧ node.typed = true ∧ x.1.lookup k = some c ∧ c.dyn = true ∧
    reloadHit env fuel x.1 k = true ∧ reloadOut env fuel x.1 k = .ok v ∧ v ≠ c.val

theorem StaleAt.not_settled {env : Env} {fuel : Nat} {x : St × RSt} {k : Key} (h : StaleAt env fuel x k) :
    ¬ Settled env fuel x.1 x.2.graph := by
  obtain ⟨node, c, v, hg, ht, hc, hd, _, ho, hv⟩ := h
  intro hs
  rcases (hs k node c hg ht hc hd).res with ⟨h1, _⟩ | ⟨e, h1, _⟩
  · rw [ho] at h1; exact hv (by simpa using h1)
  · rw [ho] at h1; cases h1

def staleAtB (env : Env) (fuel : Nat) (x : St × RSt) (k : Key) : Bool :=
  (x.2.graph.get (.asset k)).any (·.typed) && reloadHit env fuel x.1 k &&
  (x.1.lookup k).any fun c => c.dyn &&
    (match reloadOut env fuel x.1 k with
     | .ok v => decide (v ≠ c.val)
     | _ => false)

theorem staleAt_of_check {env : Env} {fuel : Nat} {x : St × RSt} {k : Key} (h : staleAtB env fuel x k = true) :
    StaleAt env fuel x k := by
  simp only [staleAtB, Bool.and_eq_true, Option.any_eq_true] at h
  obtain ⟨⟨⟨node, hg, ht⟩, hh⟩, c, hc, hd, hv⟩ := h
  cases ho : reloadOut env fuel x.1 k with
  | ok v => rw [ho] at hv; exact ⟨node, c, v, hg, ht, hc, hd, hh, ho, of_decide_eq_true hv⟩
  | _ => rw [ho] at hv; cases hv

/-- **F-C05e: the statement without `hrewire` is false.** Scripts before: `b = 1`, `e = 10`; after:
`b = 2 +S0:e`, `e = 20`; both edits notified, events in the order `e.s`, `b.s`. Every hypothesis of
`C05_pass_converges_partial` except `hrewire` holds, and after the pass `b` holds `12` although
re-evaluating its loader gives `22`: `b` was rebuilt from the stale `e`, and `e` was reloaded after
it. (With the events in the other order the pass converges: the outcome depends on the iteration
order of a hash set.) -/
theorem C05_full_statement_false_rewire :
    ∃ (env env' : Env) (fuel : Nat) (s : St) (r : RSt) (changed : List Dep) (rank : Dep → Nat),
      env.Steady ∧ env'.Steady ∧ SameLoaders env env' ∧ Settled env fuel s r.graph ∧ GraphOK r.graph ∧
      (∀ a rs b, r.graph.rdepsOf a = some rs → b ∈ rs → rank b < rank a) ∧
      r.dead = false ∧ r.graph.length + 1 ≤ fuel ∧
      (∀ id ext, Dep.file id ext ∉ changed → env'.read 0 id ext = env.read 0 id ext) ∧
      (∀ id, Dep.dir id ∉ changed → env'.readDir 0 id = env.readDir 0 id) ∧
      (∀ d, d ∈ changed → d ∈ r.toReload) ∧
      NoMissInPass env' fuel (updateSteps env' fuel s r) ∧
      ReloadsReturn env' fuel (updateSteps env' fuel s r) ∧
      ¬ NoRewireOntoPending env' fuel (updateSteps env' fuel s r) ∧
      StaleAt env' fuel (runUpdate env' fuel s r) kb ∧
      (runUpdate env' fuel s r).1.lookup kb = some ⟨.int 12, true, 1, true, 1⟩ ∧
      reloadOut env' fuel (runUpdate env' fuel s r).1 kb = .ok (.int 22) := by
  have hstale : StaleAt (exEnv [2, 0] [20]) 10 (runUpdate (exEnv [2, 0] [20]) 10 (exSt 1 10) exFlat) kb :=
    staleAt_of_check (by decide)
  have hS := exEnv_steady [1] [10]
  have hS' := exEnv_steady [2, 0] [20]
  have hL := exEnv_same [1] [10] [2, 0] [20]
  have hfile := exEnv_unchanged [1] [10] [2, 0] [20]
  have hnot : ∀ d, d ∈ [Dep.file "b" "s", Dep.file "e" "s"] → d ∈ exFlat.toReload := by decide
  have hmiss : NoMissInPass (exEnv [2, 0] [20]) 10 (updateSteps (exEnv [2, 0] [20]) 10 (exSt 1 10) exFlat) :=
    noMiss_of_check (by decide)
  have hret : ReloadsReturn (exEnv [2, 0] [20]) 10 (updateSteps (exEnv [2, 0] [20]) 10 (exSt 1 10) exFlat) :=
    reloadsReturn_of_check (by decide)
  refine ⟨exEnv [1] [10], exEnv [2, 0] [20], 10, exSt 1 10, exFlat, [.file "b" "s", .file "e" "s"], exRank,
    hS, hS', hL, exFlat_settled, exFlat_graphOK, exFlat_rank, rfl, by decide, hfile, fun _ _ => rfl, hnot, hmiss, hret, ?_,
    hstale, by decide, by decide⟩
  intro hrew
  exact hstale.not_settled
    (C05_pass_converges_partial _ _ 10 _ _ _ hS hS' hL exFlat_settled exFlat_graphOK exFlat_rank rfl (by decide) hfile
      (fun _ _ => rfl) (fun d hd _ => hnot d hd) hmiss hret hrew).1

def kn : Key := ⟨0, "n"⟩

/-- **F-C05d: the statement without `hmiss` is false.** Scripts before: `b = 1`, `e = 10`, and
`n = 0 +S0:e` on disk but never loaded; after: `b = 2 +S0:n`, `e = 20`; both edits notified, events
in the order `e.s`, `b.s`. Every hypothesis of `C05_pass_converges_partial` except `hmiss` holds for
the pass `hot_reload` runs (no pending messages, local mode). The reload of `b` loads `n` for the
first time, from the stale `e`; `e` is reloaded afterwards; `n` is not in the list (it did not exist
when the list was sorted). After `hot_reload` returns `n` is registered and holds `10` although
re-evaluating its loader gives `20`. -/
theorem C05_full_statement_false_miss :
    ∃ (env env' : Env) (fuel : Nat) (s : St) (r : RSt) (changed : List Dep) (rank : Dep → Nat),
      env.Steady ∧ env'.Steady ∧ SameLoaders env env' ∧ Settled env fuel s r.graph ∧ GraphOK r.graph ∧
      (∀ a rs b, r.graph.rdepsOf a = some rs → b ∈ rs → rank b < rank a) ∧
      r.dead = false ∧ r.graph.length + 1 ≤ fuel ∧
      (∀ id ext, Dep.file id ext ∉ changed → env'.read 0 id ext = env.read 0 id ext) ∧
      (∀ id, Dep.dir id ∉ changed → env'.readDir 0 id = env.readDir 0 id) ∧
      (∀ d, d ∈ changed → d ∈ r.toReload) ∧
      s.out = [] ∧ r.static_ = false ∧
      ¬ NoMissInPass env' fuel (updateSteps env' fuel s r) ∧
      ReloadsReturn env' fuel (updateSteps env' fuel s r) ∧
      NoRewireOntoPending env' fuel (updateSteps env' fuel s r) ∧
      StaleAt env' fuel (hotReload env' fuel s r) kn ∧
      (hotReload env' fuel s r).1.lookup kn = some ⟨.int 10, true, 0, false, 2⟩ ∧
      reloadOut env' fuel (hotReload env' fuel s r).1 kn = .ok (.int 20) := by
  refine ⟨exEnv [1] [10], exEnv [2, 1] [20], 10, exSt 1 10, exFlat, [.file "b" "s", .file "e" "s"], exRank,
    exEnv_steady _ _, exEnv_steady _ _, exEnv_same _ _ _ _, exFlat_settled, exFlat_graphOK,
    exFlat_rank, rfl, by decide, exEnv_unchanged _ _ _ _, fun _ _ => rfl, by decide, rfl, rfl,
    fun h => absurd (noMiss_check_of h) (by decide), reloadsReturn_of_check (by decide),
    noRewire_of_check (by decide), staleAt_of_check (by decide), by decide, by decide⟩

/-! ## Loading establishes and preserves `Settled`

`Lemmas/Settle.lean`, `Lemmas/Channel.lean`. The statement "after a load (handle or error) and after the reloader has taken
the registrations, everything registered and cached is settled" is **false** of the code and of the
model for `Plain` loaders in an all-hot environment, in two situations (`C05_load_settles_false_absorbed`,
`C05_load_settles_false_probe`), and `Settled` is not preserved by a later load in a third
(`C05_load_preserves_false_fill`). They are excluded by named hypotheses: `CleanLoad` on the load
(= `cleanRun`: no absorbed failure, no `get_cached` probe of a key that is cached before the load
returns) and `NoProbedKeyFilled` relative to what was registered before. Each is necessary. -/

/-- **One API load establishes and preserves `Settled`** (partial: `hclean`, `hfill`).

`env` without fault plan; `s`, `r`: the cache and the reloader's data, channel drained, everything
registered and cached settled, dependency index exact.
* `hclean` — `CleanLoad`: the evaluation of `load(key)` is a clean loading run (`cleanRun`), i.e. on the
  path it takes — nested loader bodies included — plain constructors only and every look-up recorded
  (hot types, cache with reloader: this is what `Env.Hot` and `Prog.Plain` give, required on the path
  only), **no absorbed failure** (when a nested load fails the loader that asked for it does not go on
  to return a value), **no probe of a key that gets filled** (a `get_cached` that finds nothing is for
  a key still absent when the load returns); a lost keep-first insertion (the key loaded again while
  its own loader runs) needs no hypothesis;
* `hfill` — `NoProbedKeyFilled`: the load caches no key that an asset registered before depends on
  while it is absent.
No hypothesis on the fuel or on the result: the conclusion holds whether the load returns a handle, an
error, panics or runs out of fuel (re-evaluations after the load only hit: `hitRun_fuel`).

Conclusion: after the load and after the reloader has taken the `AddAsset` messages, every
registered, cached, dynamic asset — including all the assets the load cached on the way — holds what
re-evaluating its loader returns and its node holds exactly what that re-evaluation reads; the index
is exact; the channel is drained. -/
theorem C05_load_settles_partial (env : Env) (fuel : Nat) (s : St) (r : RSt) (key : Key)
    (hS : env.Steady) (hdrained : s.out = []) (hset : Settled env fuel s r.graph) (hG : GraphOK r.graph)
    (hclean : CleanLoad env fuel s key)
    (hfill : NoProbedKeyFilled s (step env fuel s (.load key)).1 r.graph) :
    Settled env fuel (processMsgs (step env fuel s (.load key)).1 r).1
      (processMsgs (step env fuel s (.load key)).1 r).2.graph ∧
    GraphOK (processMsgs (step env fuel s (.load key)).1 r).2.graph ∧
    (processMsgs (step env fuel s (.load key)).1 r).1.out = [] := by
  obtain ⟨h1, h2⟩ := load_settles hS key hdrained hset hclean hfill
  exact ⟨h1, C05_processMsgs_graphOK _ _ hG, h2⟩

/-- **Read-back of a clean load**: every registration a clean run sends is for an asset that, in the
cache the load ends in, holds what re-evaluating its loader returns, and lists exactly what that
re-evaluation reads (the re-evaluation needs no more fuel than the load had). -/
theorem C05_clean_registrations_good (env : Env) (hS : env.Steady) (fuel : Nat) (s : St) (p : Prog)
    (hclean : cleanRun env (eval env fuel s p).1 fuel s p = true) :
    ∀ m, m ∈ (eval env fuel s p).1.out → m ∈ s.out ∨ ∃ k D, m = .addAsset k D ∧ MsgGood env fuel (eval env fuel s p).1 k D :=
  clean_msgs hS fuel (fun _ h => h) fuel p s (Nat.le_refl _) hclean (St.Le.refl _)

/-! ## Histories under one environment

One theorem — `C05_history_with_load_owned_partial`: every step satisfies `StepOKO` —; the three others are
its restrictions to smaller vocabularies of steps, along the inclusions `C05_*_extends`
(`LoadHist` ⊆ `StaticHist` ⊆ `HistP StepOKC` ⊆ `HistP StepOKO`). The sections on the static mode, on `clear` and
on `load_owned` below hold what is particular to each: non-vacuity, and why each hypothesis is needed. -/

/-- **Histories with `clear` and `load_owned`** (partial): `C05_history_with_clear_partial` extended with
`.api (.loadOwned key)` steps. Every step satisfies `StepOKO` in the state it starts from: `StepOKC`
(see `C05_history_with_clear_partial`), and a `load_owned` from the API satisfies `LoadOwnedOK`:
* `clean` — `CleanLoadOwned`: the type of `key` is hot-reloaded (and the cache has a reloader), and the
  body of the loader runs clean (`cleanRun` relative to the cache the call ends in: nested `load`s, misses
  included, recursively; no absorbed failure; no `get_cached` probe of a key that is cached before the call
  returns) — the hypothesis `CleanLoad` of a load, on the body;
* `noFill`, `noFillLive` — `NoProbedKeyFilled`, `NoLivePendingKeyFilled` for the keys the owned load caches
  on the way; necessary (`C05_load_owned_false_fill`).
No hypothesis on the result (value, error, panic, exhausted fuel), none on whether `key` is cached: when it
is (`load a; load_owned a`), the owned load returns the cached value and registers `a` with the same
dependencies (`C05_load_owned_cached_agrees`) — that needs the invariant to know every cached dynamic entry
(`Reg`, carried by `SInvC`; `Settled` alone is not inductive here: `C05_load_owned_needs_registered`).
NOT covered: `load_owned` NESTED in a loader. That is not a gap of the proof: `hitRun` rejects `.loadOwned`,
so an asset whose loader takes that path is never `Settled`, whatever the history
(`C05_nested_load_owned_never_settled`, `C05_nested_load_owned_example`); `cleanRun` rejects it accordingly.

Conclusion: the one of `C05_static_history_partial`, after EVERY reloader step. -/
theorem C05_history_with_load_owned_partial (env : Env) (hS : env.Steady) (fuel : Nat) (h : List (Env × HOp))
    (hh : HistP (StepOKO env fuel) env fuel h ({}, {})) :
    ∀ h1 op h2, h = h1 ++ (env, op) :: h2 → op.isReloader = true →
      Settled env fuel (runH fuel (h1 ++ [(env, op)]) ({}, {})).1 (runH fuel (h1 ++ [(env, op)]) ({}, {})).2.graph ∧
      GraphOK (runH fuel (h1 ++ [(env, op)]) ({}, {})).2.graph ∧
      (runH fuel (h1 ++ [(env, op)]) ({}, {})).1.out = [] ∧
      (runH fuel (h1 ++ [(env, op)]) ({}, {})).2.dead = false ∧
      ((runH fuel (h1 ++ [(env, op)]) ({}, {})).2.static_ = true →
        (runH fuel (h1 ++ [(env, op)]) ({}, {})).2.toReload = []) ∧
      (op = .enhance → (runH fuel (h1 ++ [(env, op)]) ({}, {})).2.static_ = true) := by
  intro h1 op h2 e hop
  obtain ⟨j1, j2, j3, j4⟩ := (histO_settled hS hh (SInvC.init env fuel)).2 h1 op h2 e hop
  refine ⟨j1, C05_history_keeps_graphOK fuel _ _ graphOK_nil, j2, j3.live, j3.idle, ?_⟩
  intro eo
  subst eo
  rw [runH_append]
  generalize runH fuel h1 ({}, {}) = x1 at j4
  obtain ⟨s1, r1⟩ := x1
  exact enhance_static_after env fuel s1 r1 j4.live

/-- `C05_history_with_load_owned_partial` contains `C05_history_with_clear_partial` -/
theorem C05_history_with_load_owned_extends (env : Env) (fuel : Nat) (h : List (Env × HOp)) (x : St × RSt)
    (hh : HistP (StepOKC env fuel) env fuel h x) : HistP (StepOKO env fuel) env fuel h x :=
  hh.mono (fun _ _ => StepOKC.toO)

/-- **Histories with `clear`** (partial): `C05_static_history_partial` extended with `.api .clear` steps.
From the empty cache and an empty reloader, under ONE environment without fault plan; the history is
any list of API operations, `hot_reload()`s, batches of events and `enhance_hot_reloading`s such that
every step satisfies `StepOKC` in the state it starts from:
* `clear`: no hypothesis (registrations may be in the channel, events may be pending, any mode);
* a load satisfies `LoadOKC` = `CleanLoad`, `NoProbedKeyFilled` and `NoLivePendingKeyFilled` — the third
  is `NoPendingKeyFilled` asked only of the registrations whose key is cached: implied by it, and the
  only form that holds after a `clear` (`C05_clear_old_hypothesis_too_strong`); necessary
  (`C05_load_pending_false_fill`);
* `get_or_insert`: the same two no-fill hypotheses; `remove` / `take`: `NoDependentOnC` (`NoDependentOn`
  with the part on the channel asked only of cached keys other than the removed one; necessary:
  `C05_remove_breaks_settled` — with the channel drained the two coincide, `NoDependentOnC.drained` —,
  `C05_remove_pending_breaks_settled`); the read-only operations: nothing;
* reloader steps: `PassOK` as in `C05_static_history_partial`.
Every `StaticHist` is such a history (`C05_history_with_clear_extends`). Not covered here: `load_owned`
(`C05_history_with_load_owned_partial`), edits.

Conclusion: the one of `C05_static_history_partial`, after EVERY reloader step. -/
theorem C05_history_with_clear_partial (env : Env) (hS : env.Steady) (fuel : Nat) (h : List (Env × HOp))
    (hh : HistP (StepOKC env fuel) env fuel h ({}, {})) :
    ∀ h1 op h2, h = h1 ++ (env, op) :: h2 → op.isReloader = true →
      Settled env fuel (runH fuel (h1 ++ [(env, op)]) ({}, {})).1 (runH fuel (h1 ++ [(env, op)]) ({}, {})).2.graph ∧
      GraphOK (runH fuel (h1 ++ [(env, op)]) ({}, {})).2.graph ∧
      (runH fuel (h1 ++ [(env, op)]) ({}, {})).1.out = [] ∧
      (runH fuel (h1 ++ [(env, op)]) ({}, {})).2.dead = false ∧
      ((runH fuel (h1 ++ [(env, op)]) ({}, {})).2.static_ = true →
        (runH fuel (h1 ++ [(env, op)]) ({}, {})).2.toReload = []) ∧
      (op = .enhance → (runH fuel (h1 ++ [(env, op)]) ({}, {})).2.static_ = true) :=
  C05_history_with_load_owned_partial env hS fuel h (C05_history_with_load_owned_extends env fuel h _ hh)

/-- `C05_history_with_clear_partial` contains `C05_static_history_partial` (hence `C05_history_settled_partial`) -/
theorem C05_history_with_clear_extends (env : Env) (fuel : Nat) (h : List (Env × HOp)) (x : St × RSt)
    (hh : StaticHist env fuel h x) : HistP (StepOKC env fuel) env fuel h x :=
  hh.toP.mono (fun _ _ => StepOK.toC)

/-- **Histories in which the reloader is switched to static mode** (partial), from the empty cache and
an empty reloader, under ONE environment without fault plan (no edit: a notification under an unchanged
source makes the reloader re-evaluate assets whose re-evaluation reproduces the cached value — the
statement is about the bookkeeping). The history is any list of API operations, `hot_reload()`s,
batches of events and `enhance_hot_reloading`s such that every step satisfies `StepOK` in the state it
starts from (`StaticHist`):
* a load satisfies `LoadOK` (`CleanLoad`, `NoProbedKeyFilled`, `NoPendingKeyFilled`) — `get_or_insert`,
  `remove`, `take` and the read-only operations as in `C05_history_settled_partial`;
* a reloader step that runs `run_update` with something to reload — a batch of events in static mode,
  `hot_reload()` or the switch in local mode after events were taken — satisfies `PassOK` for the state
  it hands to `run_update` (`prePass`): acyclic look-ups, fuel for the sort, `NoMissInPass`,
  `ReloadsReturn`, `NoRewireOntoPending` on the steps of that pass.
Loads need not be separated by reloader steps: in static mode the registrations of a load stay in the
channel until the next reloader step (`Pending`), whichever it is.

Conclusion: after EVERY reloader step of the history — every `enhance_hot_reloading`, every batch of
events (static mode: applied at once; local mode: taken), every `hot_reload()` (static mode: a no-op
drain) — everything registered and cached is settled, the index is exact, the channel is drained, the
reloader is alive, in static mode nothing is pending; after `enhance_hot_reloading` the mode is static. -/
theorem C05_static_history_partial (env : Env) (hS : env.Steady) (fuel : Nat) (h : List (Env × HOp))
    (hh : StaticHist env fuel h ({}, {})) :
    ∀ h1 op h2, h = h1 ++ (env, op) :: h2 → op.isReloader = true →
      Settled env fuel (runH fuel (h1 ++ [(env, op)]) ({}, {})).1 (runH fuel (h1 ++ [(env, op)]) ({}, {})).2.graph ∧
      GraphOK (runH fuel (h1 ++ [(env, op)]) ({}, {})).2.graph ∧
      (runH fuel (h1 ++ [(env, op)]) ({}, {})).1.out = [] ∧
      (runH fuel (h1 ++ [(env, op)]) ({}, {})).2.dead = false ∧
      ((runH fuel (h1 ++ [(env, op)]) ({}, {})).2.static_ = true →
        (runH fuel (h1 ++ [(env, op)]) ({}, {})).2.toReload = []) ∧
      (op = .enhance → (runH fuel (h1 ++ [(env, op)]) ({}, {})).2.static_ = true) :=
  C05_history_with_clear_partial env hS fuel h (C05_history_with_clear_extends env fuel h _ hh)

/-- `C05_static_history_partial` contains `C05_history_settled_partial`: every history of loads and
`hot_reload()`s (`LoadHist`) is a `StaticHist` — its `hot_reload()`s have nothing to reload, which needs
no hypothesis. -/
theorem C05_static_history_extends (env : Env) (hS : env.Steady) (fuel : Nat) (h : List (Env × HOp))
    (hh : LoadHist env fuel h ({}, {})) : StaticHist env fuel h ({}, {}) :=
  StaticHist.of_loadHist hS hh (HInv.init env fuel)

/-- **Histories of loads and `hot_reload`s** (partial), from the empty cache and an empty reloader,
under one environment without fault plan: if every load of the history satisfies `LoadOK` in the
state it starts from (`CleanLoad`, `NoProbedKeyFilled`, and the same for the registrations still in
the channel: `NoPendingKeyFilled`), then after **every** `hot_reload` step everything registered and
cached is settled, the index is exact and the channel is drained. Loads need not be separated by
`hot_reload`s. `LoadHist` also admits `get_or_insert` (a static entry; same two no-fill hypotheses), the
operations that leave the cache as it is (`get_cached`, `contains`), and `remove` / `take` of a key on which
nothing registered and cached (and no registration still in the channel) depends (`NoDependentOn`;
necessary: `C05_remove_breaks_settled`). Not covered HERE: `clear` (its `Clear` message and the registrations
still in the channel for entries that are gone need a weaker notion of good registration:
`C05_history_with_clear_partial`), `load_owned` (registers a key it does not cache:
`C05_history_with_load_owned_partial`), `notify` / `enhance` (`C05_static_history_partial`), edits
(`C05_hot_reload_converges_partial`). -/
theorem C05_history_settled_partial (env : Env) (hS : env.Steady) (fuel : Nat) (h : List (Env × HOp))
    (hh : LoadHist env fuel h ({}, {})) :
    ∀ h1 h2, h = h1 ++ (env, .hotReload) :: h2 →
      Settled env fuel (runH fuel (h1 ++ [(env, .hotReload)]) ({}, {})).1 (runH fuel (h1 ++ [(env, .hotReload)]) ({}, {})).2.graph ∧
      GraphOK (runH fuel (h1 ++ [(env, .hotReload)]) ({}, {})).2.graph ∧
      (runH fuel (h1 ++ [(env, .hotReload)]) ({}, {})).1.out = [] := by
  intro h1 h2 e
  obtain ⟨j1, j2, j3, _⟩ := C05_static_history_partial env hS fuel h (C05_static_history_extends env hS fuel h hh)
    h1 .hotReload h2 e rfl
  exact ⟨j1, j2, j3⟩

/-- the first step of most witness histories: `load b` (which loads `e`) from the empty cache -/
theorem exLoad_kb : LoadOK (exEnv [1, 0] [10]) 10 {} {} kb := loadOK_of_check (by decide)

/-- **Non-vacuity** of `C05_history_settled_partial`: `load n` (loads `e`), `load b` (hits `e`) without
a drain in between, `hot_reload`, `load e` (a hit), `hot_reload`. -/
example :
    Settled (exEnv [1, 0] [10]) 10
      (runH 10 ([(exEnv [1, 0] [10], .api (.load kn)), (exEnv [1, 0] [10], .api (.load kb))] ++ [(exEnv [1, 0] [10], .hotReload)]) ({}, {})).1
      (runH 10 ([(exEnv [1, 0] [10], .api (.load kn)), (exEnv [1, 0] [10], .api (.load kb))] ++ [(exEnv [1, 0] [10], .hotReload)]) ({}, {})).2.graph :=
  (C05_history_settled_partial (exEnv [1, 0] [10]) (exEnv_steady _ _) 10
    [(exEnv [1, 0] [10], .api (.load kn)), (exEnv [1, 0] [10], .api (.load kb)), (exEnv [1, 0] [10], .hotReload),
     (exEnv [1, 0] [10], .api (.load ke)), (exEnv [1, 0] [10], .hotReload)]
    (.load kn _ _ _ (loadOK_of_check (by decide))
      (.load kb _ _ _ (loadOK_of_check (by decide))
        (.hotReload _ _ (.load ke _ _ _ (loadOK_of_check (by decide)) (.hotReload _ _ (.nil _))))))
    [(exEnv [1, 0] [10], .api (.load kn)), (exEnv [1, 0] [10], .api (.load kb))]
    [(exEnv [1, 0] [10], .api (.load ke)), (exEnv [1, 0] [10], .hotReload)] rfl).1

/-- **Non-vacuity** with the other admitted operations: `load b`, `get_or_insert z`, `get_cached e`, `hot_reload` -/
example :
    Settled (exEnv [1, 0] [10]) 10
      (runH 10 ([(exEnv [1, 0] [10], .api (.load kb)), (exEnv [1, 0] [10], .api (.getOrInsert ⟨0, "z"⟩ (.int 5))),
        (exEnv [1, 0] [10], .api (.getCached ke))] ++ [(exEnv [1, 0] [10], .hotReload)]) ({}, {})).1
      (runH 10 ([(exEnv [1, 0] [10], .api (.load kb)), (exEnv [1, 0] [10], .api (.getOrInsert ⟨0, "z"⟩ (.int 5))),
        (exEnv [1, 0] [10], .api (.getCached ke))] ++ [(exEnv [1, 0] [10], .hotReload)]) ({}, {})).2.graph :=
  (C05_history_settled_partial (exEnv [1, 0] [10]) (exEnv_steady _ _) 10
    [(exEnv [1, 0] [10], .api (.load kb)), (exEnv [1, 0] [10], .api (.getOrInsert ⟨0, "z"⟩ (.int 5))),
     (exEnv [1, 0] [10], .api (.getCached ke)), (exEnv [1, 0] [10], .hotReload)]
    (.load kb _ _ _ exLoad_kb
      (.insert _ _ _ _ _ (noProbedKeyFilled_of_check (by decide)) (noPendingKeyFilled_of_check (by decide))
        (.look (.getCached ke) _ _ rfl (.hotReload _ _ (.nil _)))))
    [(exEnv [1, 0] [10], .api (.load kb)), (exEnv [1, 0] [10], .api (.getOrInsert ⟨0, "z"⟩ (.int 5))),
     (exEnv [1, 0] [10], .api (.getCached ke))] [] rfl).1

/-- **Non-vacuity** with `remove`: `load b` (loads `e`), `hot_reload`, `remove b` (nothing depends on `b`),
`load b` again (a miss that hits `e`; the registration replaces the stale one), `hot_reload` -/
example :
    Settled (exEnv [1, 0] [10]) 10
      (runH 10 ([(exEnv [1, 0] [10], .api (.load kb)), (exEnv [1, 0] [10], .hotReload), (exEnv [1, 0] [10], .api (.remove kb)),
        (exEnv [1, 0] [10], .api (.load kb))] ++ [(exEnv [1, 0] [10], .hotReload)]) ({}, {})).1
      (runH 10 ([(exEnv [1, 0] [10], .api (.load kb)), (exEnv [1, 0] [10], .hotReload), (exEnv [1, 0] [10], .api (.remove kb)),
        (exEnv [1, 0] [10], .api (.load kb))] ++ [(exEnv [1, 0] [10], .hotReload)]) ({}, {})).2.graph :=
  (C05_history_settled_partial (exEnv [1, 0] [10]) (exEnv_steady _ _) 10
    [(exEnv [1, 0] [10], .api (.load kb)), (exEnv [1, 0] [10], .hotReload), (exEnv [1, 0] [10], .api (.remove kb)),
     (exEnv [1, 0] [10], .api (.load kb)), (exEnv [1, 0] [10], .hotReload)]
    (.load kb _ _ _ exLoad_kb
      (.hotReload _ _ (.remove kb _ _ _ (noDependentOn_of_check (by decide))
        (.load kb _ _ _ (loadOK_of_check (by decide)) (.hotReload _ _ (.nil _))))))
    [(exEnv [1, 0] [10], .api (.load kb)), (exEnv [1, 0] [10], .hotReload), (exEnv [1, 0] [10], .api (.remove kb)),
     (exEnv [1, 0] [10], .api (.load kb))] [] rfl).1

/-! ## Load, edit, notify, `hot_reload` -/

/-- the cache and the reloader after `load(key)` and after the reloader has taken the registrations -/
def loadDrain (env : Env) (fuel : Nat) (x : St × RSt) (key : Key) : St × RSt :=
  processMsgs (step env fuel x.1 (.load key)).1 x.2

/-- **Edit, notify, `hot_reload`** from a drained, settled state `x` in local mode: `handle_events` only takes the
events the graph knows (`handleEvents_local`), and `hot_reload()` under the new source converges
(`C05_hot_reload_converges_partial`, the pass being the one from the state `handle_events` leaves). -/
theorem notify_hot_reload_converges (env env' : Env) (fuel : Nat) (x : St × RSt) (changed : List Dep) {rank : Dep → Nat}
    (hS : env.Steady) (hS' : env'.Steady) (hL : SameLoaders env env')
    (hset : Settled env fuel x.1 x.2.graph) (hG : GraphOK x.2.graph) (hdrained : x.1.out = [])
    (hlive : x.2.dead = false) (hlocal : x.2.static_ = false)
    (hfile : ∀ id ext, Dep.file id ext ∉ changed → env'.read 0 id ext = env.read 0 id ext)
    (hdir : ∀ id, Dep.dir id ∉ changed → env'.readDir 0 id = env.readDir 0 id)
    (hrank : ∀ a rs b, x.2.graph.rdepsOf a = some rs → b ∈ rs → rank b < rank a)
    (hfuel : x.2.graph.length + 1 ≤ fuel)
    (hmiss : NoMissInPass env' fuel (updateSteps env' fuel
      (handleEvents env' fuel x.1 x.2 changed).1 (handleEvents env' fuel x.1 x.2 changed).2))
    (hret : ReloadsReturn env' fuel (updateSteps env' fuel
      (handleEvents env' fuel x.1 x.2 changed).1 (handleEvents env' fuel x.1 x.2 changed).2))
    (hrewire : NoRewireOntoPending env' fuel (updateSteps env' fuel
      (handleEvents env' fuel x.1 x.2 changed).1 (handleEvents env' fuel x.1 x.2 changed).2)) :
    Settled env' fuel
      (hotReload env' fuel (handleEvents env' fuel x.1 x.2 changed).1 (handleEvents env' fuel x.1 x.2 changed).2).1
      (hotReload env' fuel (handleEvents env' fuel x.1 x.2 changed).1 (handleEvents env' fuel x.1 x.2 changed).2).2.graph ∧
    (hotReload env' fuel (handleEvents env' fuel x.1 x.2 changed).1 (handleEvents env' fuel x.1 x.2 changed).2).2.dead = false := by
  obtain ⟨s1, r1⟩ := x
  rw [handleEvents_local env' fuel s1 r1 changed hlive hlocal hdrained] at hmiss hret hrewire ⊢
  exact C05_hot_reload_converges_partial env env' fuel _ _ changed hS hS' hL hset hG hrank hlive hfuel hdrained hlocal
    hfile hdir (fun d hd hg => mem_keepEvents _ changed _ d hd hg) hmiss hret hrewire

/-- **Load, edit, notify, `hot_reload`** (partial). `x = (s, r)`: channel drained, everything settled
under `env`, index exact, reloader alive, local mode. `load(key)` under `env` (`hclean`, `hfill` as in
`C05_load_settles_partial`), the reloader takes the registrations (`loadDrain`); the source is edited:
`env'` differs from `env` only on `changed` (`hfile`, `hdir`); every changed entry is notified
(`handleEvents`: the graph keeps the ones it knows); `hot_reload()` under `env'`. Under the three named
hypotheses on that pass (`hmiss` = `NoMissInPass`, excludes F-C05d; `hret` = `ReloadsReturn`;
`hrewire` = `NoRewireOntoPending`, excludes F-C05e) and acyclic look-ups (`hrank`), afterwards every
registered, cached, dynamic asset — those the load cached included — is settled under the NEW source. -/
theorem C05_load_edit_reload_converges_partial (env env' : Env) (fuel : Nat) (x : St × RSt) (key : Key)
    (changed : List Dep) {rank : Dep → Nat}
    (hS : env.Steady) (hS' : env'.Steady) (hL : SameLoaders env env')
    (hdrained : x.1.out = []) (hset : Settled env fuel x.1 x.2.graph) (hG : GraphOK x.2.graph)
    (hlive : x.2.dead = false) (hlocal : x.2.static_ = false)
    (hclean : CleanLoad env fuel x.1 key)
    (hfill : NoProbedKeyFilled x.1 (step env fuel x.1 (.load key)).1 x.2.graph)
    (hfile : ∀ id ext, Dep.file id ext ∉ changed → env'.read 0 id ext = env.read 0 id ext)
    (hdir : ∀ id, Dep.dir id ∉ changed → env'.readDir 0 id = env.readDir 0 id)
    (hrank : ∀ a rs b, (loadDrain env fuel x key).2.graph.rdepsOf a = some rs → b ∈ rs → rank b < rank a)
    (hfuel : (loadDrain env fuel x key).2.graph.length + 1 ≤ fuel)
    (hmiss : NoMissInPass env' fuel (updateSteps env' fuel
      (handleEvents env' fuel (loadDrain env fuel x key).1 (loadDrain env fuel x key).2 changed).1
      (handleEvents env' fuel (loadDrain env fuel x key).1 (loadDrain env fuel x key).2 changed).2))
    (hret : ReloadsReturn env' fuel (updateSteps env' fuel
      (handleEvents env' fuel (loadDrain env fuel x key).1 (loadDrain env fuel x key).2 changed).1
      (handleEvents env' fuel (loadDrain env fuel x key).1 (loadDrain env fuel x key).2 changed).2))
    (hrewire : NoRewireOntoPending env' fuel (updateSteps env' fuel
      (handleEvents env' fuel (loadDrain env fuel x key).1 (loadDrain env fuel x key).2 changed).1
      (handleEvents env' fuel (loadDrain env fuel x key).1 (loadDrain env fuel x key).2 changed).2)) :
    Settled env' fuel
      (hotReload env' fuel (handleEvents env' fuel (loadDrain env fuel x key).1 (loadDrain env fuel x key).2 changed).1
        (handleEvents env' fuel (loadDrain env fuel x key).1 (loadDrain env fuel x key).2 changed).2).1
      (hotReload env' fuel (handleEvents env' fuel (loadDrain env fuel x key).1 (loadDrain env fuel x key).2 changed).1
        (handleEvents env' fuel (loadDrain env fuel x key).1 (loadDrain env fuel x key).2 changed).2).2.graph ∧
    (hotReload env' fuel (handleEvents env' fuel (loadDrain env fuel x key).1 (loadDrain env fuel x key).2 changed).1
        (handleEvents env' fuel (loadDrain env fuel x key).1 (loadDrain env fuel x key).2 changed).2).2.dead = false := by
  have hl := C05_load_settles_partial env fuel x.1 x.2 key hS hdrained hset hG hclean hfill
  exact notify_hot_reload_converges env env' fuel (loadDrain env fuel x key) changed hS hS' hL hl.1 hl.2.1 hl.2.2
    ((processMsgs_dead _ _).trans hlive) ((processMsgs_static _ _).trans hlocal) hfile hdir hrank hfuel hmiss hret hrewire

/-- **Non-vacuity** of `C05_load_edit_reload_converges_partial`: the chain `b → e` of the examples
above, with the initial state produced by the load theorem — empty cache, empty reloader, `load b`
(which loads `e`), the reloader takes the two registrations; `e.s` is edited from `10` to `20` and
notified; `hot_reload`. All hypotheses hold; the computed result is `e = 20`, `b = 21`. -/
example :
    Settled (exEnv [1, 0] [20]) 10
      (hotReload (exEnv [1, 0] [20]) 10
        (handleEvents (exEnv [1, 0] [20]) 10 (loadDrain (exEnv [1, 0] [10]) 10 ({}, {}) kb).1
          (loadDrain (exEnv [1, 0] [10]) 10 ({}, {}) kb).2 [.file "e" "s"]).1
        (handleEvents (exEnv [1, 0] [20]) 10 (loadDrain (exEnv [1, 0] [10]) 10 ({}, {}) kb).1
          (loadDrain (exEnv [1, 0] [10]) 10 ({}, {}) kb).2 [.file "e" "s"]).2).1
      (hotReload (exEnv [1, 0] [20]) 10
        (handleEvents (exEnv [1, 0] [20]) 10 (loadDrain (exEnv [1, 0] [10]) 10 ({}, {}) kb).1
          (loadDrain (exEnv [1, 0] [10]) 10 ({}, {}) kb).2 [.file "e" "s"]).1
        (handleEvents (exEnv [1, 0] [20]) 10 (loadDrain (exEnv [1, 0] [10]) 10 ({}, {}) kb).1
          (loadDrain (exEnv [1, 0] [10]) 10 ({}, {}) kb).2 [.file "e" "s"]).2).2.graph ∧
    (hotReload (exEnv [1, 0] [20]) 10
        (handleEvents (exEnv [1, 0] [20]) 10 (loadDrain (exEnv [1, 0] [10]) 10 ({}, {}) kb).1
          (loadDrain (exEnv [1, 0] [10]) 10 ({}, {}) kb).2 [.file "e" "s"]).1
        (handleEvents (exEnv [1, 0] [20]) 10 (loadDrain (exEnv [1, 0] [10]) 10 ({}, {}) kb).1
          (loadDrain (exEnv [1, 0] [10]) 10 ({}, {}) kb).2 [.file "e" "s"]).2).2.dead = false :=
  C05_load_edit_reload_converges_partial (exEnv [1, 0] [10]) (exEnv [1, 0] [20]) 10 ({}, {}) kb [.file "e" "s"]
    (rank := exRank) (exEnv_steady _ _) (exEnv_steady _ _) (exEnv_same _ _ _ _)
    rfl (settled_nil _ _ _) graphOK_nil rfl rfl (by decide) (noProbedKeyFilled_nil _ _)
    (exEnv_unchanged_e _ _ _) (fun _ _ => rfl) (rank_of_entries (by decide)) (by decide)
    (noMiss_of_check (by decide)) (reloadsReturn_of_check (by decide)) (noRewire_of_check (by decide))

/-- the state the load theorem produces is the one the earlier examples built by hand, and the
conclusion checked on the computed result -/
example :
    (loadDrain (exEnv [1, 0] [10]) 10 ({}, {}) kb).1.lookup ke = some ⟨.int 10, true, 0, false, 0⟩ ∧
    (loadDrain (exEnv [1, 0] [10]) 10 ({}, {}) kb).1.lookup kb = some ⟨.int 11, true, 0, false, 1⟩ ∧
    settledB (exEnv [1, 0] [10]) 10 (loadDrain (exEnv [1, 0] [10]) 10 ({}, {}) kb).1
      (loadDrain (exEnv [1, 0] [10]) 10 ({}, {}) kb).2.graph = true ∧
    (hotReload (exEnv [1, 0] [20]) 10
        (handleEvents (exEnv [1, 0] [20]) 10 (loadDrain (exEnv [1, 0] [10]) 10 ({}, {}) kb).1
          (loadDrain (exEnv [1, 0] [10]) 10 ({}, {}) kb).2 [.file "e" "s"]).1
        (handleEvents (exEnv [1, 0] [20]) 10 (loadDrain (exEnv [1, 0] [10]) 10 ({}, {}) kb).1
          (loadDrain (exEnv [1, 0] [10]) 10 ({}, {}) kb).2 [.file "e" "s"]).2).1.lookup kb =
      some ⟨.int 21, true, 1, true, 1⟩ := by decide +kernel

/-- **A history of loads, then edit, notify, `hot_reload`** (partial): the same as
`C05_load_edit_reload_converges_partial` with the state before the edit produced by a whole history
`h ++ [hot_reload]` of loads (`LoadHist`, every load `LoadOK`) from the empty cache and an empty reloader. -/
theorem C05_history_edit_reload_converges_partial (env env' : Env) (fuel : Nat) (h : List (Env × HOp))
    (changed : List Dep) {rank : Dep → Nat}
    (hS : env.Steady) (hS' : env'.Steady) (hL : SameLoaders env env')
    (hh : LoadHist env fuel (h ++ [(env, .hotReload)]) ({}, {}))
    (hfile : ∀ id ext, Dep.file id ext ∉ changed → env'.read 0 id ext = env.read 0 id ext)
    (hdir : ∀ id, Dep.dir id ∉ changed → env'.readDir 0 id = env.readDir 0 id)
    (hrank : ∀ a rs b, (runH fuel (h ++ [(env, .hotReload)]) ({}, {})).2.graph.rdepsOf a = some rs → b ∈ rs → rank b < rank a)
    (hfuel : (runH fuel (h ++ [(env, .hotReload)]) ({}, {})).2.graph.length + 1 ≤ fuel)
    (hmiss : NoMissInPass env' fuel (updateSteps env' fuel
      (handleEvents env' fuel (runH fuel (h ++ [(env, .hotReload)]) ({}, {})).1 (runH fuel (h ++ [(env, .hotReload)]) ({}, {})).2 changed).1
      (handleEvents env' fuel (runH fuel (h ++ [(env, .hotReload)]) ({}, {})).1 (runH fuel (h ++ [(env, .hotReload)]) ({}, {})).2 changed).2))
    (hret : ReloadsReturn env' fuel (updateSteps env' fuel
      (handleEvents env' fuel (runH fuel (h ++ [(env, .hotReload)]) ({}, {})).1 (runH fuel (h ++ [(env, .hotReload)]) ({}, {})).2 changed).1
      (handleEvents env' fuel (runH fuel (h ++ [(env, .hotReload)]) ({}, {})).1 (runH fuel (h ++ [(env, .hotReload)]) ({}, {})).2 changed).2))
    (hrewire : NoRewireOntoPending env' fuel (updateSteps env' fuel
      (handleEvents env' fuel (runH fuel (h ++ [(env, .hotReload)]) ({}, {})).1 (runH fuel (h ++ [(env, .hotReload)]) ({}, {})).2 changed).1
      (handleEvents env' fuel (runH fuel (h ++ [(env, .hotReload)]) ({}, {})).1 (runH fuel (h ++ [(env, .hotReload)]) ({}, {})).2 changed).2)) :
    Settled env' fuel
      (hotReload env' fuel
        (handleEvents env' fuel (runH fuel (h ++ [(env, .hotReload)]) ({}, {})).1 (runH fuel (h ++ [(env, .hotReload)]) ({}, {})).2 changed).1
        (handleEvents env' fuel (runH fuel (h ++ [(env, .hotReload)]) ({}, {})).1 (runH fuel (h ++ [(env, .hotReload)]) ({}, {})).2 changed).2).1
      (hotReload env' fuel
        (handleEvents env' fuel (runH fuel (h ++ [(env, .hotReload)]) ({}, {})).1 (runH fuel (h ++ [(env, .hotReload)]) ({}, {})).2 changed).1
        (handleEvents env' fuel (runH fuel (h ++ [(env, .hotReload)]) ({}, {})).1 (runH fuel (h ++ [(env, .hotReload)]) ({}, {})).2 changed).2).2.graph ∧
    (hotReload env' fuel
        (handleEvents env' fuel (runH fuel (h ++ [(env, .hotReload)]) ({}, {})).1 (runH fuel (h ++ [(env, .hotReload)]) ({}, {})).2 changed).1
        (handleEvents env' fuel (runH fuel (h ++ [(env, .hotReload)]) ({}, {})).1 (runH fuel (h ++ [(env, .hotReload)]) ({}, {})).2 changed).2).2.dead = false := by
  obtain ⟨hinv, hall⟩ := loads_settle hS hh (HInv.init env fuel)
  obtain ⟨l1, l3⟩ := hall h [] rfl
  have l2 : GraphOK (runH fuel (h ++ [(env, .hotReload)]) ({}, {})).2.graph := C05_history_keeps_graphOK fuel _ _ graphOK_nil
  have hd1 := hinv.live
  have hs1 := hinv.local_
  generalize runH fuel (h ++ [(env, .hotReload)]) ({}, {}) = x1 at *
  exact notify_hot_reload_converges env env' fuel x1 changed hS hS' hL l1 l2 l3 hd1 hs1 hfile hdir hrank hfuel hmiss hret hrewire

/-! ## The hypotheses on loads and on `remove` are necessary

Loaders of a tiny all-hot type table (all `Plain`): `x` returns `0`; `y` fails; `a` loads `y` and
returns `1` whatever that gives (it absorbs the failure); `p` probes `x` with `get_cached`, and when `x`
is absent loads it and returns `1`, else returns `2`; `q` probes `x` and returns `1` / `2`. -/

def cxProg (id : String) : Prog :=
  if id = "x" then .ret (.int 0)
  else if id = "y" then .fail (.custom "no")
  else if id = "a" then .load ⟨0, "y"⟩ fun _ => .ret (.int 1)
  else if id = "p" then .getCached ⟨0, "x"⟩ fun r =>
    match r with
    | none => .load ⟨0, "x"⟩ fun _ => .ret (.int 1)
    | some _ => .ret (.int 2)
  else if id = "q" then .getCached ⟨0, "x"⟩ fun r =>
    match r with
    | none => .ret (.int 1)
    | some _ => .ret (.int 2)
  else .panic

def cxEnv : Env :=
  { read := fun _ id _ => .error ⟨true, "NotFound", id⟩
    readDir := fun _ _ => .ok []
    types := fun _ => { hot := true, prog := cxProg }
    hasReloader := true }

theorem cxEnv_steady : cxEnv.Steady := ⟨fun _ _ _ _ => rfl, fun _ _ _ => rfl, fun _ _ => rfl⟩
theorem cxEnv_hot : cxEnv.Hot := ⟨rfl, fun _ => rfl⟩

theorem cxEnv_plain : ∀ ty id, ((cxEnv.types ty).prog id).Plain := fun _ _ =>
  .ite (.ret _) (.ite (.fail _) (.ite (.load _ _ fun _ => .ret _)
    (.ite (.getCached _ _ fun r => by
      cases r
      · exact .load _ _ fun _ => .ret _
      · exact .ret _)
      (.ite (.getCached _ _ fun r => by cases r <;> exact .ret _) .panic))))

/-- a registered, cached, dynamic asset whose re-evaluation is NOT a tracked hit-only run (it misses) -/
def missAtB (env : Env) (fuel : Nat) (x : St × RSt) (k : Key) : Bool :=
  (x.2.graph.get (.asset k)).any (·.typed) && (x.1.lookup k).any (·.dyn) && !reloadHit env fuel x.1 k

theorem not_settled_of_miss {env : Env} {fuel : Nat} {x : St × RSt} {k : Key} (h : missAtB env fuel x k = true) :
    ¬ Settled env fuel x.1 x.2.graph := by
  simp only [missAtB, Bool.and_eq_true, Option.any_eq_true, Bool.not_eq_true'] at h
  obtain ⟨⟨⟨node, hg, ht⟩, c, hc, hd⟩, hm⟩ := h
  intro hs
  have := (hs k node c hg ht hc hd).hit
  rw [hm] at this
  cases this

/-- **An absorbed failure: the load statement without `hclean` is false.** Every hypothesis of the
unrestricted statement holds — environment without fault plan, all types hot, all loaders `Plain`,
empty cache and reloader (settled, exact, drained) — and `load a` returns a handle. `a` loaded `y`,
which failed, and went on: it is cached and registered with the dependency `y`, and `y` is not cached.
Re-evaluating `a` misses `y`: it is not a tracked hit-only run, `a` is not settled. (A reload of `a`
would load `y` behind the sort's back: F-C05d.) -/
theorem C05_load_settles_false_absorbed :
    ∃ (env : Env) (fuel : Nat) (s : St) (r : RSt) (key : Key),
      env.Steady ∧ env.Hot ∧ (∀ ty id, ((env.types ty).prog id).Plain) ∧
      s.out = [] ∧ Settled env fuel s r.graph ∧ GraphOK r.graph ∧
      NoProbedKeyFilled s (step env fuel s (.load key)).1 r.graph ∧
      (step env fuel s (.load key)).2 = .handle 0 (.int 1) ∧
      ¬ CleanLoad env fuel s key ∧
      reloadHit env fuel (loadDrain env fuel (s, r) key).1 key = false ∧
      ¬ Settled env fuel (loadDrain env fuel (s, r) key).1 (loadDrain env fuel (s, r) key).2.graph :=
  ⟨cxEnv, 10, {}, {}, ⟨0, "a"⟩, cxEnv_steady, cxEnv_hot, cxEnv_plain, rfl, settled_nil _ _ _, graphOK_nil,
    noProbedKeyFilled_nil _ _, by decide, by decide, by decide,
    not_settled_of_miss (x := loadDrain cxEnv 10 ({}, {}) ⟨0, "a"⟩) (k := ⟨0, "a"⟩) (by decide)⟩

/-- **A probe of a key that gets filled: the load statement without `hclean` is false.** Same
hypotheses; `load p` returns a handle. `p` probed `x` with `get_cached`, found nothing, loaded `x` and
returned `1`. Now `x` is cached: re-evaluating `p` returns `2`. `p` holds `1`: stale from the start. -/
theorem C05_load_settles_false_probe :
    ∃ (env : Env) (fuel : Nat) (s : St) (r : RSt) (key : Key),
      env.Steady ∧ env.Hot ∧ (∀ ty id, ((env.types ty).prog id).Plain) ∧
      s.out = [] ∧ Settled env fuel s r.graph ∧ GraphOK r.graph ∧
      NoProbedKeyFilled s (step env fuel s (.load key)).1 r.graph ∧
      (step env fuel s (.load key)).2 = .handle 1 (.int 1) ∧
      ¬ CleanLoad env fuel s key ∧
      StaleAt env fuel (loadDrain env fuel (s, r) key) key ∧
      reloadOut env fuel (loadDrain env fuel (s, r) key).1 key = .ok (.int 2) ∧
      ¬ Settled env fuel (loadDrain env fuel (s, r) key).1 (loadDrain env fuel (s, r) key).2.graph :=
  have hst : StaleAt cxEnv 10 (loadDrain cxEnv 10 ({}, {}) ⟨0, "p"⟩) ⟨0, "p"⟩ := staleAt_of_check (by decide)
  ⟨cxEnv, 10, {}, {}, ⟨0, "p"⟩, cxEnv_steady, cxEnv_hot, cxEnv_plain, rfl, settled_nil _ _ _, graphOK_nil,
    noProbedKeyFilled_nil _ _, by decide, by decide, hst, by decide, hst.not_settled⟩

/-- **`Settled` is not preserved without `hfill`.** `q` was loaded (it probed `x`, found nothing,
returned `1`) and registered: everything is settled (by the load theorem). Then `load x`: a clean load
that returns a handle — and fills the key `q` probed. Re-evaluating `q` returns `2` now; `q` holds `1`.
(In the code the dependency `q → x` is recorded, but the first load of `x` is not an event.) -/
theorem C05_load_preserves_false_fill :
    ∃ (env : Env) (fuel : Nat) (s : St) (r : RSt) (key : Key),
      env.Steady ∧ env.Hot ∧ (∀ ty id, ((env.types ty).prog id).Plain) ∧
      s.out = [] ∧ Settled env fuel s r.graph ∧ GraphOK r.graph ∧
      CleanLoad env fuel s key ∧
      (step env fuel s (.load key)).2 = .handle 1 (.int 0) ∧
      ¬ NoProbedKeyFilled s (step env fuel s (.load key)).1 r.graph ∧
      StaleAt env fuel (loadDrain env fuel (s, r) key) ⟨0, "q"⟩ ∧
      ¬ Settled env fuel (loadDrain env fuel (s, r) key).1 (loadDrain env fuel (s, r) key).2.graph := by
  have h0 := C05_load_settles_partial cxEnv 10 {} {} ⟨0, "q"⟩ cxEnv_steady rfl (settled_nil _ _ _) graphOK_nil
    (by decide) (noProbedKeyFilled_nil _ _)
  have hst : StaleAt cxEnv 10 (loadDrain cxEnv 10 (loadDrain cxEnv 10 ({}, {}) ⟨0, "q"⟩) ⟨0, "x"⟩) ⟨0, "q"⟩ :=
    staleAt_of_check (by decide)
  have hclean : CleanLoad cxEnv 10 (loadDrain cxEnv 10 ({}, {}) ⟨0, "q"⟩).1 ⟨0, "x"⟩ := by decide
  refine ⟨cxEnv, 10, (loadDrain cxEnv 10 ({}, {}) ⟨0, "q"⟩).1, (loadDrain cxEnv 10 ({}, {}) ⟨0, "q"⟩).2, ⟨0, "x"⟩,
    cxEnv_steady, cxEnv_hot, cxEnv_plain, h0.2.2, h0.1, h0.2.1, hclean, by decide, ?_, hst, hst.not_settled⟩
  intro hfill
  exact hst.not_settled
    (C05_load_settles_partial cxEnv 10 _ _ ⟨0, "x"⟩ cxEnv_steady h0.2.2 h0.1 h0.2.1 hclean hfill).1

/-- **`remove` of a key something depends on breaks `Settled`** (`NoDependentOn` is necessary): after
`load b` (which loads `e`) and `hot_reload` everything is settled; `remove e`; now re-evaluating `b`
misses `e` — it is not a tracked hit-only run (a reload of `b` would load `e` during the pass). -/
theorem C05_remove_breaks_settled :
    ∃ (env : Env) (fuel : Nat) (x : St × RSt) (key : Key),
      env.Steady ∧ x.1.out = [] ∧ Settled env fuel x.1 x.2.graph ∧ GraphOK x.2.graph ∧
      ¬ NoDependentOn x.1 x.2.graph key ∧
      ¬ Settled env fuel (hstep fuel (env, .api (.remove key)) x).1 (hstep fuel (env, .api (.remove key)) x).2.graph := by
  have h := ((HInv.init (exEnv [1, 0] [10]) 10).step_load (exEnv_steady _ _) exLoad_kb).step_hotReload (exEnv_steady _ _)
  have hbad : ¬ Settled (exEnv [1, 0] [10]) 10
      (hstep 10 (exEnv [1, 0] [10], .api (.remove ke))
        (runH 10 [(exEnv [1, 0] [10], .api (.load kb)), (exEnv [1, 0] [10], .hotReload)] ({}, {}))).1
      (hstep 10 (exEnv [1, 0] [10], .api (.remove ke))
        (runH 10 [(exEnv [1, 0] [10], .api (.load kb)), (exEnv [1, 0] [10], .hotReload)] ({}, {}))).2.graph :=
    not_settled_of_miss (k := kb) (by decide)
  exact ⟨exEnv [1, 0] [10], 10, _, ke, exEnv_steady _ _, h.2.1, h.1, graphOK_hstep 10 _ _ (graphOK_hstep 10 _ _ graphOK_nil),
    fun hdep => hbad (remove_keeps_settled (exEnv_steady _ _) h.2.2 h.2.1 hdep), hbad⟩

/-! ## The static mode (`enhance_hot_reloading`): the cache follows the source by itself

In static mode every batch of events is applied at once by the reloader thread (`handle_events` →
`update_if_static`), the switch itself applies what was notified before and not applied yet, and
`hot_reload()` is a no-op. The pass is the same `run_update`: the statements are `hstep_pass_converges`
(`Lemmas/StaticMode.lean`: any reloader step that runs a pass) for `handle_events` and for the switch, with
the three named hypotheses of `C05_pass_converges_partial` on the steps of the pass from the state the
entry point hands to `run_update` (`takeEvents`, `enhanceState`). -/

/-- The pass `handle_events` runs in static mode is `run_update` from `takeEvents s r evs` (messages
drained, the events the graph knows taken); with a drained channel that state is `s` and `r` with the
kept events added to the set of changed entries. -/
theorem C05_static_events_pass_state (env : Env) (fuel : Nat) (s : St) (r : RSt) (evs : List Dep)
    (hlive : r.dead = false) (hstatic : r.static_ = true) :
    handleEvents env fuel s r evs =
      processMsgs (runUpdate env fuel (takeEvents s r evs).1 (takeEvents s r evs).2).1
        (runUpdate env fuel (takeEvents s r evs).1 (takeEvents s r evs).2).2 ∧
    (s.out = [] → takeEvents s r evs = (s, { r with toReload := keepEvents r.graph evs r.toReload })) :=
  ⟨handleEvents_static env fuel s r evs hlive hstatic, takeEvents_drained s r evs⟩

/-- **A batch of events in static mode converges** (partial: `hmiss`, `hrewire` as in
`C05_pass_converges_partial`, on the steps of the pass `handle_events` runs).

`s`, `r`: the cache and the reloader's data, reloader alive and in static mode; registrations of earlier
loads may still be in the channel (the usual situation in static mode, where nobody has to call
`hot_reload()`): `Pending` under the source `env` before the edits — every registration in the channel is
good and everything registered and cached is settled unless a registration for it is in the channel.
`handle_events` takes them first; the graph the sort walks is the one after that drain
(`(takeEvents s r evs).2.graph`). `env'` differs from `env` only on `changed` (`hfile`, `hdir`); every
changed entry the graph knows is among the events `evs` of this batch or was in the set of changed
entries already (`hnotified`). The three named hypotheses are on `updateSteps` of the state `handle_events`
hands to `run_update` (`takeEvents s r evs`, see `C05_static_events_pass_state`).

Conclusion: when `handle_events` returns — no `hot_reload()` call — every registered, cached, dynamic
asset is settled under the NEW source, the reloader is alive and still in static mode, the channel is
drained (the pass registered nothing behind the sort's back), nothing is pending, the index is exact. -/
theorem C05_static_events_converge_pending_partial (env env' : Env) (fuel : Nat) (s : St) (r : RSt)
    (evs changed : List Dep) {rank : Dep → Nat}
    (hS : env.Steady) (hS' : env'.Steady) (hL : SameLoaders env env')
    (hp : Pending env fuel s r.graph) (hG : GraphOK r.graph)
    (hrank : ∀ a rs b, (takeEvents s r evs).2.graph.rdepsOf a = some rs → b ∈ rs → rank b < rank a)
    (hlive : r.dead = false) (hfuel : (takeEvents s r evs).2.graph.length + 1 ≤ fuel)
    (hstatic : r.static_ = true)
    (hfile : ∀ id ext, Dep.file id ext ∉ changed → env'.read 0 id ext = env.read 0 id ext)
    (hdir : ∀ id, Dep.dir id ∉ changed → env'.readDir 0 id = env.readDir 0 id)
    (hnotified : ∀ d, d ∈ changed → (takeEvents s r evs).2.graph.get d ≠ none → d ∈ evs ∨ d ∈ r.toReload)
    (hmiss : NoMissInPass env' fuel (updateSteps env' fuel (takeEvents s r evs).1 (takeEvents s r evs).2))
    (hret : ReloadsReturn env' fuel (updateSteps env' fuel (takeEvents s r evs).1 (takeEvents s r evs).2))
    (hrewire : NoRewireOntoPending env' fuel (updateSteps env' fuel (takeEvents s r evs).1 (takeEvents s r evs).2)) :
    Settled env' fuel (handleEvents env' fuel s r evs).1 (handleEvents env' fuel s r evs).2.graph ∧
    (handleEvents env' fuel s r evs).2.dead = false ∧ (handleEvents env' fuel s r evs).1.out = [] ∧
    (handleEvents env' fuel s r evs).2.toReload = [] ∧ (handleEvents env' fuel s r evs).2.static_ = true ∧
    GraphOK (handleEvents env' fuel s r evs).2.graph := by
  obtain ⟨c1, c2, c3, c4, c5, _⟩ := hstep_pass_converges hS hS' hL (.notify evs) (x := (s, r)) (changed := changed)
    (hp.drain hS) hG.1 hlive hstatic hfile hdir
    (by
      intro d hd hk
      show d ∈ keepEvents (processMsgs s r).2.graph evs (processMsgs s r).2.toReload
      rcases hnotified d hd hk with h | h
      · exact mem_keepEvents _ evs _ d h hk
      · exact mem_keepEvents_of_mem _ evs _ d (by rw [hp.drain_toReload]; exact h))
    ⟨⟨rank, hrank⟩, hfuel, hmiss, hret, hrewire⟩
  exact ⟨c1, c2, c3, c4, c5.trans ((processMsgs_static s r).trans hstatic),
    graphOK_hstep fuel (env', .notify evs) (s, r) hG⟩

/-- The same from a drained channel, everything registered and cached settled: the pass is sorted from
`r.graph`. -/
theorem C05_static_events_converge_partial (env env' : Env) (fuel : Nat) (s : St) (r : RSt) (evs changed : List Dep)
    {rank : Dep → Nat}
    (hS : env.Steady) (hS' : env'.Steady) (hL : SameLoaders env env')
    (hset : Settled env fuel s r.graph) (hG : GraphOK r.graph)
    (hrank : ∀ a rs b, r.graph.rdepsOf a = some rs → b ∈ rs → rank b < rank a)
    (hlive : r.dead = false) (hfuel : r.graph.length + 1 ≤ fuel)
    (hdrained : s.out = []) (hstatic : r.static_ = true)
    (hfile : ∀ id ext, Dep.file id ext ∉ changed → env'.read 0 id ext = env.read 0 id ext)
    (hdir : ∀ id, Dep.dir id ∉ changed → env'.readDir 0 id = env.readDir 0 id)
    (hnotified : ∀ d, d ∈ changed → r.graph.get d ≠ none → d ∈ evs ∨ d ∈ r.toReload)
    (hmiss : NoMissInPass env' fuel (updateSteps env' fuel (takeEvents s r evs).1 (takeEvents s r evs).2))
    (hret : ReloadsReturn env' fuel (updateSteps env' fuel (takeEvents s r evs).1 (takeEvents s r evs).2))
    (hrewire : NoRewireOntoPending env' fuel (updateSteps env' fuel (takeEvents s r evs).1 (takeEvents s r evs).2)) :
    Settled env' fuel (handleEvents env' fuel s r evs).1 (handleEvents env' fuel s r evs).2.graph ∧
    (handleEvents env' fuel s r evs).2.dead = false ∧ (handleEvents env' fuel s r evs).1.out = [] ∧
    (handleEvents env' fuel s r evs).2.toReload = [] ∧ (handleEvents env' fuel s r evs).2.static_ = true ∧
    GraphOK (handleEvents env' fuel s r evs).2.graph := by
  have hg : (takeEvents s r evs).2.graph = r.graph := by rw [takeEvents_drained s r evs hdrained]
  exact C05_static_events_converge_pending_partial env env' fuel s r evs changed hS hS' hL
    (Pending.of_settled hdrained hset) hG (by rw [hg]; exact hrank) hlive (by rw [hg]; exact hfuel) hstatic hfile hdir
    (by rw [hg]; exact hnotified) hmiss hret hrewire

/-- The pass `enhance_hot_reloading` runs from the local mode is `run_update` from `enhanceState s r`
(messages drained, mode switched); with a drained channel that state is `s` and `r` in static mode. -/
theorem C05_enhance_pass_state (env : Env) (fuel : Nat) (s : St) (r : RSt)
    (hlive : r.dead = false) (hlocal : r.static_ = false) :
    enhance env fuel s r =
      processMsgs (runUpdate env fuel (enhanceState s r).1 (enhanceState s r).2).1
        (runUpdate env fuel (enhanceState s r).1 (enhanceState s r).2).2 ∧
    (s.out = [] → enhanceState s r = (s, { r with static_ := true })) :=
  ⟨enhance_local env fuel s r hlive hlocal, enhanceState_drained s r⟩

/-- **The switch to static mode applies what was pending** (partial: `hmiss`, `hrewire` on the steps
of the pass `enhance_hot_reloading` runs).

`s`, `r`: reloader alive, LOCAL mode, `Pending` under the source `env` before the edits (the switch takes
the registrations in the channel first); `env'` differs from `env` only on `changed`, and every changed
entry the graph knows has been notified — it is in `r.toReload`, not applied yet (no `hot_reload()` since).
After `enhance_hot_reloading` returns everything registered and cached is settled under the NEW source, the
reloader is alive and in static mode, the channel is drained, nothing is pending, the index is exact. -/
theorem C05_enhance_converges_pending_partial (env env' : Env) (fuel : Nat) (s : St) (r : RSt) (changed : List Dep)
    {rank : Dep → Nat}
    (hS : env.Steady) (hS' : env'.Steady) (hL : SameLoaders env env')
    (hp : Pending env fuel s r.graph) (hG : GraphOK r.graph)
    (hrank : ∀ a rs b, (enhanceState s r).2.graph.rdepsOf a = some rs → b ∈ rs → rank b < rank a)
    (hlive : r.dead = false) (hfuel : (enhanceState s r).2.graph.length + 1 ≤ fuel)
    (hlocal : r.static_ = false)
    (hfile : ∀ id ext, Dep.file id ext ∉ changed → env'.read 0 id ext = env.read 0 id ext)
    (hdir : ∀ id, Dep.dir id ∉ changed → env'.readDir 0 id = env.readDir 0 id)
    (hnotified : ∀ d, d ∈ changed → (enhanceState s r).2.graph.get d ≠ none → d ∈ r.toReload)
    (hmiss : NoMissInPass env' fuel (updateSteps env' fuel (enhanceState s r).1 (enhanceState s r).2))
    (hret : ReloadsReturn env' fuel (updateSteps env' fuel (enhanceState s r).1 (enhanceState s r).2))
    (hrewire : NoRewireOntoPending env' fuel (updateSteps env' fuel (enhanceState s r).1 (enhanceState s r).2)) :
    Settled env' fuel (enhance env' fuel s r).1 (enhance env' fuel s r).2.graph ∧
    (enhance env' fuel s r).2.dead = false ∧ (enhance env' fuel s r).1.out = [] ∧
    (enhance env' fuel s r).2.toReload = [] ∧ (enhance env' fuel s r).2.static_ = true ∧
    GraphOK (enhance env' fuel s r).2.graph := by
  obtain ⟨c1, c2, c3, c4, c5, _⟩ := hstep_pass_converges hS hS' hL .enhance (x := (s, r)) (changed := changed)
    (hp.drain hS) hG.1 hlive (congrArg (!·) hlocal) hfile hdir
    (by
      intro d hd hk
      show d ∈ (processMsgs s r).2.toReload
      rw [hp.drain_toReload]
      exact hnotified d hd hk)
    ⟨⟨rank, hrank⟩, hfuel, hmiss, hret, hrewire⟩
  exact ⟨c1, c2, c3, c4, c5, graphOK_hstep fuel (env', .enhance) (s, r) hG⟩

/-- The same from a drained channel, everything registered and cached settled. -/
theorem C05_enhance_converges_partial (env env' : Env) (fuel : Nat) (s : St) (r : RSt) (changed : List Dep)
    {rank : Dep → Nat}
    (hS : env.Steady) (hS' : env'.Steady) (hL : SameLoaders env env')
    (hset : Settled env fuel s r.graph) (hG : GraphOK r.graph)
    (hrank : ∀ a rs b, r.graph.rdepsOf a = some rs → b ∈ rs → rank b < rank a)
    (hlive : r.dead = false) (hfuel : r.graph.length + 1 ≤ fuel)
    (hdrained : s.out = []) (hlocal : r.static_ = false)
    (hfile : ∀ id ext, Dep.file id ext ∉ changed → env'.read 0 id ext = env.read 0 id ext)
    (hdir : ∀ id, Dep.dir id ∉ changed → env'.readDir 0 id = env.readDir 0 id)
    (hnotified : ∀ d, d ∈ changed → r.graph.get d ≠ none → d ∈ r.toReload)
    (hmiss : NoMissInPass env' fuel (updateSteps env' fuel (enhanceState s r).1 (enhanceState s r).2))
    (hret : ReloadsReturn env' fuel (updateSteps env' fuel (enhanceState s r).1 (enhanceState s r).2))
    (hrewire : NoRewireOntoPending env' fuel (updateSteps env' fuel (enhanceState s r).1 (enhanceState s r).2)) :
    Settled env' fuel (enhance env' fuel s r).1 (enhance env' fuel s r).2.graph ∧
    (enhance env' fuel s r).2.dead = false ∧ (enhance env' fuel s r).1.out = [] ∧
    (enhance env' fuel s r).2.toReload = [] ∧ (enhance env' fuel s r).2.static_ = true ∧
    GraphOK (enhance env' fuel s r).2.graph := by
  have hg : (enhanceState s r).2.graph = r.graph := by rw [enhanceState_drained s r hdrained]
  exact C05_enhance_converges_pending_partial env env' fuel s r changed hS hS' hL
    (Pending.of_settled hdrained hset) hG (by rw [hg]; exact hrank) hlive (by rw [hg]; exact hfuel) hlocal hfile hdir
    (by rw [hg]; exact hnotified) hmiss hret hrewire

/-- **In static mode `hot_reload()` is a no-op** (as documented): the reloader only takes the messages
of the channel (registrations of loads) — no pass, no entry is rewritten, whatever the source, the set
of changed entries and the fuel are. (A dead reloader does nothing at all.) -/
theorem C05_hot_reload_static_idle (env : Env) (fuel : Nat) (s : St) (r : RSt) (hstatic : r.static_ = true) :
    hotReload env fuel s r = (if r.dead then (s, r) else processMsgs s r) ∧
    (hotReload env fuel s r).1.map = s.map ∧
    (∀ k, (hotReload env fuel s r).1.lookup k = s.lookup k) ∧
    (hotReload env fuel s r).2.static_ = true := by
  cases hd : r.dead with
  | true =>
    have e : hotReload env fuel s r = (s, r) := if_pos hd
    rw [e]
    exact ⟨rfl, rfl, fun _ => rfl, hstatic⟩
  | false =>
    rw [hotReload_static env fuel s r hd hstatic]
    exact ⟨rfl, rfl, fun k => processMsgs_lookup s r k, (processMsgs_static s r).trans hstatic⟩

/-! ### Non-vacuity of the static-mode statements: the chain `b → e` -/

/-- `load b` (which loads `e`), then `enhance_hot_reloading`: the two registrations are taken by the
switch; static mode -/
def exStatic : St × RSt :=
  runH 10 [(exEnv [1, 0] [10], .api (.load kb)), (exEnv [1, 0] [10], .enhance)] ({}, {})

theorem exStatic_hist :
    StaticHist (exEnv [1, 0] [10]) 10 [(exEnv [1, 0] [10], .api (.load kb)), (exEnv [1, 0] [10], .enhance)] ({}, {}) :=
  .cons _ _ _ (StepOK.load exLoad_kb) (.cons _ _ _ (StepOK.of_idle rfl (by decide)) (.nil _))

/-- **Non-vacuity** of `C05_static_events_converge_partial`: `load b`, `enhance_hot_reloading` (the
initial state is produced by the history theorem), `e.s` is edited from `10` to `20`, the event is
handed to the reloader — no `hot_reload()`. All hypotheses hold. -/
example :
    Settled (exEnv [1, 0] [20]) 10 (handleEvents (exEnv [1, 0] [20]) 10 exStatic.1 exStatic.2 [.file "e" "s"]).1
      (handleEvents (exEnv [1, 0] [20]) 10 exStatic.1 exStatic.2 [.file "e" "s"]).2.graph ∧
    (handleEvents (exEnv [1, 0] [20]) 10 exStatic.1 exStatic.2 [.file "e" "s"]).2.dead = false ∧
    (handleEvents (exEnv [1, 0] [20]) 10 exStatic.1 exStatic.2 [.file "e" "s"]).1.out = [] ∧
    (handleEvents (exEnv [1, 0] [20]) 10 exStatic.1 exStatic.2 [.file "e" "s"]).2.toReload = [] ∧
    (handleEvents (exEnv [1, 0] [20]) 10 exStatic.1 exStatic.2 [.file "e" "s"]).2.static_ = true ∧
    GraphOK (handleEvents (exEnv [1, 0] [20]) 10 exStatic.1 exStatic.2 [.file "e" "s"]).2.graph :=
  have h0 := C05_static_history_partial (exEnv [1, 0] [10]) (exEnv_steady _ _) 10 _ exStatic_hist
    [(exEnv [1, 0] [10], .api (.load kb))] .enhance [] rfl rfl
  C05_static_events_converge_partial (exEnv [1, 0] [10]) (exEnv [1, 0] [20]) 10 exStatic.1 exStatic.2
    [.file "e" "s"] [.file "e" "s"]
    (rank := exRank) (exEnv_steady _ _) (exEnv_steady _ _) (exEnv_same _ _ _ _)
    h0.1 h0.2.1 (rank_of_entries (by decide)) h0.2.2.2.1 (by decide) h0.2.2.1 (h0.2.2.2.2.2 rfl)
    (exEnv_unchanged_e _ _ _) (fun _ _ => rfl) (fun _ hd _ => Or.inl hd)
    (noMiss_of_check (by decide)) (reloadsReturn_of_check (by decide)) (noRewire_of_check (by decide))

/-- the conclusion, checked on the computed state: `e = 20`, `b = 21` as soon as `handle_events` returns -/
example :
    (handleEvents (exEnv [1, 0] [20]) 10 exStatic.1 exStatic.2 [.file "e" "s"]).1.lookup ke = some ⟨.int 20, true, 1, true, 0⟩ ∧
    (handleEvents (exEnv [1, 0] [20]) 10 exStatic.1 exStatic.2 [.file "e" "s"]).1.lookup kb = some ⟨.int 21, true, 1, true, 1⟩ ∧
    settledB (exEnv [1, 0] [20]) 10 (handleEvents (exEnv [1, 0] [20]) 10 exStatic.1 exStatic.2 [.file "e" "s"]).1
      (handleEvents (exEnv [1, 0] [20]) 10 exStatic.1 exStatic.2 [.file "e" "s"]).2.graph = true ∧
    (updateSteps (exEnv [1, 0] [20]) 10 (takeEvents exStatic.1 exStatic.2 [.file "e" "s"]).1
      (takeEvents exStatic.1 exStatic.2 [.file "e" "s"]).2).map (·.key) = [ke, kb] := by decide +kernel

/-- … and a `hot_reload()` afterwards changes nothing (`C05_hot_reload_static_idle`) -/
example :
    hotReload (exEnv [1, 0] [20]) 10 (handleEvents (exEnv [1, 0] [20]) 10 exStatic.1 exStatic.2 [.file "e" "s"]).1
        (handleEvents (exEnv [1, 0] [20]) 10 exStatic.1 exStatic.2 [.file "e" "s"]).2 =
      handleEvents (exEnv [1, 0] [20]) 10 exStatic.1 exStatic.2 [.file "e" "s"] := by
  have h := (C05_hot_reload_static_idle (exEnv [1, 0] [20]) 10
    (handleEvents (exEnv [1, 0] [20]) 10 exStatic.1 exStatic.2 [.file "e" "s"]).1
    (handleEvents (exEnv [1, 0] [20]) 10 exStatic.1 exStatic.2 [.file "e" "s"]).2 (by decide)).1
  rw [h, show (handleEvents (exEnv [1, 0] [20]) 10 exStatic.1 exStatic.2 [.file "e" "s"]).2.dead = false by decide]
  exact processMsgs_nil _ _ (by decide)

/-- **Non-vacuity** of `C05_enhance_converges_partial`: `exHist` = `load b`, `hot_reload()`, `e.s` edited
from `10` to `20` and notified in LOCAL mode (taken, not applied); `enhance_hot_reloading` applies it. -/
example :
    (Settled (exEnv [1, 0] [20]) 10 (enhance (exEnv [1, 0] [20]) 10 exHist.1 exHist.2).1
      (enhance (exEnv [1, 0] [20]) 10 exHist.1 exHist.2).2.graph ∧
     (enhance (exEnv [1, 0] [20]) 10 exHist.1 exHist.2).2.dead = false ∧
     (enhance (exEnv [1, 0] [20]) 10 exHist.1 exHist.2).1.out = [] ∧
     (enhance (exEnv [1, 0] [20]) 10 exHist.1 exHist.2).2.toReload = [] ∧
     (enhance (exEnv [1, 0] [20]) 10 exHist.1 exHist.2).2.static_ = true ∧
     GraphOK (enhance (exEnv [1, 0] [20]) 10 exHist.1 exHist.2).2.graph) ∧
    exHist.2.toReload = [.file "e" "s"] ∧
    (enhance (exEnv [1, 0] [20]) 10 exHist.1 exHist.2).1.lookup ke = some ⟨.int 20, true, 1, true, 0⟩ ∧
    (enhance (exEnv [1, 0] [20]) 10 exHist.1 exHist.2).1.lookup kb = some ⟨.int 21, true, 1, true, 1⟩ :=
  ⟨C05_enhance_converges_partial (exEnv [1, 0] [10]) (exEnv [1, 0] [20]) 10 exHist.1 exHist.2 [.file "e" "s"]
    (rank := exRank) (exEnv_steady _ _) (exEnv_steady _ _) (exEnv_same _ _ _ _)
    (settled_of_check (by decide)) (C05_history_keeps_graphOK 10 _ _ graphOK_nil) (rank_of_entries (by decide))
    (by decide) (by decide) (by decide) (by decide)
    (exEnv_unchanged_e _ _ _) (fun _ _ => rfl) (by decide)
    (noMiss_of_check (by decide)) (reloadsReturn_of_check (by decide)) (noRewire_of_check (by decide)),
   by decide, by decide, by decide⟩

/-- **Non-vacuity** of `C05_static_history_partial`, passes in static mode included: `load b`, the switch,
a notification for `e.s` (static mode: `e` and `b` are re-evaluated at once), `load n` (its registration
stays in the channel), `hot_reload()` (a no-op that drains it), a notification again (`e`, `b`, `n`). -/
def exStaticHistory : List (Env × HOp) :=
  [(exEnv [1, 0] [10], .api (.load kb)), (exEnv [1, 0] [10], .enhance),
   (exEnv [1, 0] [10], .notify [.file "e" "s"]), (exEnv [1, 0] [10], .api (.load kn)),
   (exEnv [1, 0] [10], .hotReload), (exEnv [1, 0] [10], .notify [.file "e" "s"])]

theorem exStaticHistory_ok : StaticHist (exEnv [1, 0] [10]) 10 exStaticHistory ({}, {}) :=
  .cons _ _ _ (StepOK.load exLoad_kb)
    (.cons _ _ _ (StepOK.of_idle rfl (by decide))
      (.cons _ _ _ (StepOK.of_pass rfl (PassOK.of_checks exRank (by decide) (by decide) (by decide) (by decide) (by decide)))
        (.cons _ _ _ (StepOK.load (loadOK_of_check (by decide)))
          (.cons _ _ _ (StepOK.of_idle rfl (by decide))
            (.cons _ _ _ (StepOK.of_pass rfl (PassOK.of_checks exRank (by decide) (by decide) (by decide) (by decide) (by decide)))
              (.nil _))))))

example :
    Settled (exEnv [1, 0] [10]) 10 (runH 10 exStaticHistory ({}, {})).1 (runH 10 exStaticHistory ({}, {})).2.graph ∧
    (runH 10 exStaticHistory ({}, {})).2.static_ = true ∧ (runH 10 exStaticHistory ({}, {})).2.toReload = [] :=
  have h := C05_static_history_partial (exEnv [1, 0] [10]) (exEnv_steady _ _) 10 exStaticHistory exStaticHistory_ok
    [(exEnv [1, 0] [10], .api (.load kb)), (exEnv [1, 0] [10], .enhance),
     (exEnv [1, 0] [10], .notify [.file "e" "s"]), (exEnv [1, 0] [10], .api (.load kn)),
     (exEnv [1, 0] [10], .hotReload)] (.notify [.file "e" "s"]) [] rfl rfl
  ⟨h.1, by decide, h.2.2.2.2.1 (by decide)⟩

/-- the passes of that history are not empty: the second notification re-evaluates `e`, then `b` and `n`;
the registration of `n` was in the channel until the `hot_reload()` -/
example :
    (runH 10 (exStaticHistory.take 4) ({}, {})).1.out.length = 1 ∧
    (runH 10 (exStaticHistory.take 5) ({}, {})).1.out = [] ∧
    ((updateSteps (exEnv [1, 0] [10]) 10
      (prePass (.notify [.file "e" "s"]) (runH 10 (exStaticHistory.take 5) ({}, {}))).1
      (prePass (.notify [.file "e" "s"]) (runH 10 (exStaticHistory.take 5) ({}, {}))).2).map (·.key)).length = 3 ∧
    (runH 10 exStaticHistory ({}, {})).1.lookup kn = some ⟨.int 10, true, 1, true, 2⟩ := by decide +kernel

/-! ### The two order-dependent situations exist in static mode too

The pass is the same `run_update`, sorted once from the graph as it is when the batch arrives: the
named hypotheses `hrewire` (F-C05e) and `hmiss` (F-C05d) of `C05_static_events_converge_partial` cannot
be dropped. Same scripts as `C05_full_statement_false_rewire` / `C05_full_statement_false_miss`; the
events of ONE batch arrive as `e.s`, `b.s`. -/

/-- `b = 1`, `e = 10`, both loaded and registered; static mode, nothing pending -/
def exFlatStatic : RSt := { graph := exFlat.graph, static_ := true }

/-- **F-C05e in static mode**: every hypothesis of `C05_static_events_converge_partial` except `hrewire`
holds, and when `handle_events` returns `b` holds `12` although re-evaluating its loader gives `22`. -/
theorem C05_static_statement_false_rewire :
    ∃ (env env' : Env) (fuel : Nat) (s : St) (r : RSt) (evs changed : List Dep) (rank : Dep → Nat),
      env.Steady ∧ env'.Steady ∧ SameLoaders env env' ∧ Settled env fuel s r.graph ∧ GraphOK r.graph ∧
      (∀ a rs b, r.graph.rdepsOf a = some rs → b ∈ rs → rank b < rank a) ∧
      r.dead = false ∧ r.graph.length + 1 ≤ fuel ∧ s.out = [] ∧ r.static_ = true ∧
      (∀ id ext, Dep.file id ext ∉ changed → env'.read 0 id ext = env.read 0 id ext) ∧
      (∀ id, Dep.dir id ∉ changed → env'.readDir 0 id = env.readDir 0 id) ∧
      (∀ d, d ∈ changed → d ∈ evs) ∧
      NoMissInPass env' fuel (updateSteps env' fuel (takeEvents s r evs).1 (takeEvents s r evs).2) ∧
      ReloadsReturn env' fuel (updateSteps env' fuel (takeEvents s r evs).1 (takeEvents s r evs).2) ∧
      ¬ NoRewireOntoPending env' fuel (updateSteps env' fuel (takeEvents s r evs).1 (takeEvents s r evs).2) ∧
      StaleAt env' fuel (handleEvents env' fuel s r evs) kb ∧
      (handleEvents env' fuel s r evs).1.lookup kb = some ⟨.int 12, true, 1, true, 1⟩ ∧
      reloadOut env' fuel (handleEvents env' fuel s r evs).1 kb = .ok (.int 22) := by
  have hstale : StaleAt (exEnv [2, 0] [20]) 10
      (handleEvents (exEnv [2, 0] [20]) 10 (exSt 1 10) exFlatStatic [.file "e" "s", .file "b" "s"]) kb :=
    staleAt_of_check (by decide)
  have hS := exEnv_steady [1] [10]
  have hS' := exEnv_steady [2, 0] [20]
  have hL := exEnv_same [1] [10] [2, 0] [20]
  have hfile := exEnv_unchanged [1] [10] [2, 0] [20]
  have hnot : ∀ d, d ∈ [Dep.file "b" "s", Dep.file "e" "s"] → d ∈ [Dep.file "e" "s", Dep.file "b" "s"] := by decide
  refine ⟨exEnv [1] [10], exEnv [2, 0] [20], 10, exSt 1 10, exFlatStatic, [.file "e" "s", .file "b" "s"],
    [.file "b" "s", .file "e" "s"], exRank,
    hS, hS', hL, exFlat_settled, exFlat_graphOK, exFlat_rank, rfl, by decide, rfl, rfl, hfile, fun _ _ => rfl, hnot,
    noMiss_of_check (by decide), reloadsReturn_of_check (by decide), ?_, hstale, by decide, by decide⟩
  intro hrew
  exact hstale.not_settled
    (C05_static_events_converge_partial _ _ 10 _ exFlatStatic _ _ hS hS' hL exFlat_settled exFlat_graphOK exFlat_rank
      rfl (by decide) rfl rfl hfile (fun _ _ => rfl) (fun d hd _ => Or.inl (hnot d hd)) (noMiss_of_check (by decide))
      (reloadsReturn_of_check (by decide)) hrew).1

/-- **F-C05d in static mode**: every hypothesis of `C05_static_events_converge_partial` except `hmiss`
holds; the reload of `b` loads `n` for the first time, from the stale `e`; when `handle_events` returns
`n` is registered (its registration was drained by `handle_events` itself) and holds `10` although
re-evaluating its loader gives `20`. -/
theorem C05_static_statement_false_miss :
    ∃ (env env' : Env) (fuel : Nat) (s : St) (r : RSt) (evs changed : List Dep) (rank : Dep → Nat),
      env.Steady ∧ env'.Steady ∧ SameLoaders env env' ∧ Settled env fuel s r.graph ∧ GraphOK r.graph ∧
      (∀ a rs b, r.graph.rdepsOf a = some rs → b ∈ rs → rank b < rank a) ∧
      r.dead = false ∧ r.graph.length + 1 ≤ fuel ∧ s.out = [] ∧ r.static_ = true ∧
      (∀ id ext, Dep.file id ext ∉ changed → env'.read 0 id ext = env.read 0 id ext) ∧
      (∀ id, Dep.dir id ∉ changed → env'.readDir 0 id = env.readDir 0 id) ∧
      (∀ d, d ∈ changed → d ∈ evs) ∧
      ¬ NoMissInPass env' fuel (updateSteps env' fuel (takeEvents s r evs).1 (takeEvents s r evs).2) ∧
      ReloadsReturn env' fuel (updateSteps env' fuel (takeEvents s r evs).1 (takeEvents s r evs).2) ∧
      NoRewireOntoPending env' fuel (updateSteps env' fuel (takeEvents s r evs).1 (takeEvents s r evs).2) ∧
      StaleAt env' fuel (handleEvents env' fuel s r evs) kn ∧
      (handleEvents env' fuel s r evs).1.lookup kn = some ⟨.int 10, true, 0, false, 2⟩ ∧
      reloadOut env' fuel (handleEvents env' fuel s r evs).1 kn = .ok (.int 20) := by
  refine ⟨exEnv [1] [10], exEnv [2, 1] [20], 10, exSt 1 10, exFlatStatic, [.file "e" "s", .file "b" "s"],
    [.file "b" "s", .file "e" "s"], exRank,
    exEnv_steady _ _, exEnv_steady _ _, exEnv_same _ _ _ _, exFlat_settled, exFlat_graphOK,
    exFlat_rank, rfl, by decide, rfl, rfl, exEnv_unchanged _ _ _ _, fun _ _ => rfl, by decide,
    fun h => absurd (noMiss_check_of h) (by decide), reloadsReturn_of_check (by decide),
    noRewire_of_check (by decide), staleAt_of_check (by decide), by decide, by decide⟩

/-! ## Histories with `clear` (`Lemmas/Channel.lean`)

After `clear` the cache is empty, the reloader's graph keeps its (typed) nodes, and the registrations
that were still in the channel name entries that are gone: the invariant `Pending` of the history
theorems above ("every registration in the channel is `MsgGood`: its key IS cached …") is false. It is
replaced by `PendingC`: the LAST registration of every key in the channel is good IF its key is cached
(`MsgGoodIf`, `LastGood`). A stale registration cannot break `Settled`: `insertAsset` replaces the
dependencies of the node, so the last message wins (`settledBut_drainC`) — and a key can only be cached
again (with a dynamic cell) by a load that misses, which sends a NEW registration after the stale one.
`clear` itself needs no hypothesis. -/

/-- **Last message wins** (the drain lemma behind the theorem): if the last registration of every key
in the channel is good if its key is cached, and everything registered and cached is settled except
the keys with a registration in the channel, then after the reloader has taken the channel — stale
registrations and `Clear`s included — everything registered and cached is settled. -/
theorem C05_last_registration_wins (env : Env) (hS : env.Steady) (fuel : Nat) (s : St) (r : RSt)
    (hlast : LastGood env fuel s s.out) (hbut : SettledBut env fuel s r.graph s.out) :
    Settled env fuel (processMsgs s r).1 (processMsgs s r).2.graph :=
  hlast.drain hS hbut

/-- `clear` keeps the invariant whatever is in the channel and in the graph, without hypothesis -/
theorem C05_clear_keeps_invariant (env : Env) (hS : env.Steady) (fuel : Nat) (x : St × RSt) (hx : SInvC env fuel x) :
    SInvC env fuel (hstep fuel (env, .api .clear) x) ∧
    (∀ k, (hstep fuel (env, .api .clear) x).1.lookup k = none) ∧
    (hstep fuel (env, .api .clear) x).2 = x.2 ∧
    (hstep fuel (env, .api .clear) x).1.out = if env.hasReloader then x.1.out ++ [.clear] else x.1.out :=
  ⟨hx.step hS _ StepOKC.clear, fun k => step_clear_lookup env fuel x.1 k, rfl, step_clear_out env fuel x.1⟩

/-! ### Non-vacuity -/

/-- `load b` (loads `e`), `clear` — the two registrations and the `Clear` are in the channel, nothing
is cached —, `load b` again, `hot_reload()` -/
def exClearHistory : List (Env × HOp) :=
  [(exEnv [1, 0] [10], .api (.load kb)), (exEnv [1, 0] [10], .api .clear),
   (exEnv [1, 0] [10], .api (.load kb)), (exEnv [1, 0] [10], .hotReload)]

theorem exClearHistory_ok : HistP (StepOKC (exEnv [1, 0] [10]) 10) (exEnv [1, 0] [10]) 10 exClearHistory ({}, {}) :=
  .cons _ _ _ (StepOKC.load exLoad_kb.toC)
    (.cons _ _ _ StepOKC.clear
      (.cons _ _ _ (StepOKC.load (loadOKC_of_check (by decide)))
        (.cons _ _ _ (StepOK.of_idle rfl (by decide)).toC (.nil _))))

/-- **Non-vacuity** of `C05_history_with_clear_partial`, the channel NOT drained before the `clear` -/
example :
    Settled (exEnv [1, 0] [10]) 10 (runH 10 exClearHistory ({}, {})).1 (runH 10 exClearHistory ({}, {})).2.graph ∧
    (runH 10 exClearHistory ({}, {})).1.out = [] :=
  have h := C05_history_with_clear_partial (exEnv [1, 0] [10]) (exEnv_steady _ _) 10 exClearHistory exClearHistory_ok
    [(exEnv [1, 0] [10], .api (.load kb)), (exEnv [1, 0] [10], .api .clear), (exEnv [1, 0] [10], .api (.load kb))]
    .hotReload [] rfl rfl
  ⟨h.1, h.2.2.1⟩

/-- what happens in that history: after the `clear` nothing is cached and three messages are in the
channel; before the `hot_reload()` there are five (two stale registrations, `Clear`, two new ones); at
the end `e` and `b` are cached again (new entries) and registered. -/
example :
    (runH 10 (exClearHistory.take 2) ({}, {})).1.map = [] ∧
    (runH 10 (exClearHistory.take 2) ({}, {})).1.out =
      [.addAsset ke [.file "e" "s"], .addAsset kb [.file "b" "s", .asset ke], .clear] ∧
    (runH 10 (exClearHistory.take 3) ({}, {})).1.out.length = 5 ∧
    (runH 10 exClearHistory ({}, {})).1.lookup kb = some ⟨.int 11, true, 0, false, 3⟩ ∧
    settledB (exEnv [1, 0] [10]) 10 (runH 10 exClearHistory ({}, {})).1 (runH 10 exClearHistory ({}, {})).2.graph = true := by
  decide +kernel

/-- `load b` (loads `e`), the switch to static mode, `clear`, `load e`, a notification for `e.s`: the pass of
the notification is sorted from a graph that still has the typed node of `b` — an asset that is gone -/
def exClearStaticHistory : List (Env × HOp) :=
  [(exEnv [1, 0] [10], .api (.load kb)), (exEnv [1, 0] [10], .enhance), (exEnv [1, 0] [10], .api .clear),
   (exEnv [1, 0] [10], .api (.load ke)), (exEnv [1, 0] [10], .notify [.file "e" "s"])]

theorem exClearStaticHistory_ok :
    HistP (StepOKC (exEnv [1, 0] [10]) 10) (exEnv [1, 0] [10]) 10 exClearStaticHistory ({}, {}) :=
  .cons _ _ _ (StepOKC.load exLoad_kb.toC)
    (.cons _ _ _ (StepOK.of_idle rfl (by decide)).toC
      (.cons _ _ _ StepOKC.clear
        (.cons _ _ _ (StepOKC.load (loadOKC_of_check (by decide)))
          (.cons _ _ _ (StepOK.of_pass rfl
            (PassOK.of_checks exRank (by decide) (by decide) (by decide) (by decide) (by decide))).toC (.nil _)))))

/-- **Non-vacuity** with a pass after the `clear` (static mode): the reload list of the notification is `e`, `b`
— `b` is registered but not cached any more, `reload` skips it —, and everything is settled when
`handle_events` returns; the `Clear` and the registration of `e` were taken by that step. -/
example :
    Settled (exEnv [1, 0] [10]) 10 (runH 10 exClearStaticHistory ({}, {})).1 (runH 10 exClearStaticHistory ({}, {})).2.graph ∧
    (runH 10 (exClearStaticHistory.take 4) ({}, {})).1.out = [.clear, .addAsset ke [.file "e" "s"]] ∧
    (updateSteps (exEnv [1, 0] [10]) 10
      (prePass (.notify [.file "e" "s"]) (runH 10 (exClearStaticHistory.take 4) ({}, {}))).1
      (prePass (.notify [.file "e" "s"]) (runH 10 (exClearStaticHistory.take 4) ({}, {}))).2).map (·.key) = [ke, kb] ∧
    (runH 10 exClearStaticHistory ({}, {})).1.lookup kb = none ∧
    ((runH 10 exClearStaticHistory ({}, {})).2.graph.get (.asset kb)).map (·.typed) = some true ∧
    (runH 10 exClearStaticHistory ({}, {})).1.lookup ke = some ⟨.int 10, true, 1, true, 2⟩ :=
  have h := C05_history_with_clear_partial (exEnv [1, 0] [10]) (exEnv_steady _ _) 10 exClearStaticHistory
    exClearStaticHistory_ok
    [(exEnv [1, 0] [10], .api (.load kb)), (exEnv [1, 0] [10], .enhance), (exEnv [1, 0] [10], .api .clear),
     (exEnv [1, 0] [10], .api (.load ke))] (.notify [.file "e" "s"]) [] rfl rfl
  ⟨h.1, by decide, by decide, by decide, by decide, by decide⟩

/-- **The hypothesis of the earlier history theorems is too strong after a `clear`**: in that history the
second `load b` violates `NoPendingKeyFilled` (it fills `e`, which the STALE registration of `b` lists
while `e` is absent), hence `LoadOK`; it satisfies `LoadOKC`. -/
theorem C05_clear_old_hypothesis_too_strong :
    ¬ LoadOK (exEnv [1, 0] [10]) 10 (runH 10 (exClearHistory.take 2) ({}, {})).1
        (runH 10 (exClearHistory.take 2) ({}, {})).2 kb ∧
    LoadOKC (exEnv [1, 0] [10]) 10 (runH 10 (exClearHistory.take 2) ({}, {})).1
        (runH 10 (exClearHistory.take 2) ({}, {})).2 kb :=
  ⟨fun h => absurd (noPendingKeyFilled_check_of h.noFillPending) (by decide), loadOKC_of_check (by decide)⟩

/-- loaders whose dependency set depends on the cache: `x` returns `0`; `r` probes `x` with `get_cached`:
absent → `1`; present → reads `f.s` and returns `2`; `w` loads `x` and returns `3`; `o` calls `load_owned x`
and returns `4` -/
def lwProg (id : String) : Prog :=
  if id = "x" then .ret (.int 0)
  else if id = "r" then .getCached ⟨0, "x"⟩ fun r =>
    match r with
    | none => .ret (.int 1)
    | some _ => .read "f" "s" fun _ => .ret (.int 2)
  else if id = "w" then .load ⟨0, "x"⟩ fun _ => .ret (.int 3)
  else if id = "o" then .loadOwned ⟨0, "x"⟩ fun _ => .ret (.int 4)
  else .panic

def lwEnv : Env :=
  { read := fun _ id _ => .error ⟨true, "NotFound", id⟩
    readDir := fun _ _ => .ok []
    types := fun _ => { hot := true, prog := lwProg }
    hasReloader := true }

theorem lwEnv_steady : lwEnv.Steady := ⟨fun _ _ _ _ => rfl, fun _ _ _ => rfl, fun _ _ => rfl⟩

def kx : Key := ⟨0, "x"⟩
def kr : Key := ⟨0, "r"⟩

/-- `load x`, `load r` (registered with `{x, f.s}`, value `2`), `clear`, `load r` (registered with `{x}`,
value `1`), `hot_reload()`: two DIFFERENT registrations of `r` are in the channel when it is drained -/
def lwHistory : List (Env × HOp) :=
  [(lwEnv, .api (.load kx)), (lwEnv, .api (.load kr)), (lwEnv, .api .clear), (lwEnv, .api (.load kr)),
   (lwEnv, .hotReload)]

theorem lwHistory_ok : HistP (StepOKC lwEnv 10) lwEnv 10 lwHistory ({}, {}) :=
  .cons _ _ _ (StepOKC.load (loadOKC_of_check (by decide)))
    (.cons _ _ _ (StepOKC.load (loadOKC_of_check (by decide)))
      (.cons _ _ _ StepOKC.clear
        (.cons _ _ _ (StepOKC.load (loadOKC_of_check (by decide)))
          (.cons _ _ _ (StepOK.of_idle rfl (by decide)).toC (.nil _)))))

/-- **A stale registration with other dependencies, still in the channel, is harmless**: `load r; clear;
load r` with different dependency sets between the two registrations, both drained by the same
`hot_reload()` — the node of `r` ends with the dependencies of the LAST one, and `r` is settled. -/
example :
    Settled lwEnv 10 (runH 10 lwHistory ({}, {})).1 (runH 10 lwHistory ({}, {})).2.graph ∧
    (runH 10 (lwHistory.take 4) ({}, {})).1.out =
      [.addAsset kx [], .addAsset kr [.asset kx, .file "f" "s"], .clear, .addAsset kr [.asset kx]] ∧
    ((runH 10 lwHistory ({}, {})).2.graph.get (.asset kr)).map (·.deps) = some [.asset kx] ∧
    (runH 10 lwHistory ({}, {})).1.lookup kr = some ⟨.int 1, true, 0, false, 2⟩ :=
  have h := C05_history_with_clear_partial lwEnv lwEnv_steady 10 lwHistory lwHistory_ok
    [(lwEnv, .api (.load kx)), (lwEnv, .api (.load kr)), (lwEnv, .api .clear), (lwEnv, .api (.load kr))]
    .hotReload [] rfl rfl
  ⟨h.1, by decide, by decide, by decide⟩

/-! ### The weakened hypotheses are still necessary -/

/-- **`NoLivePendingKeyFilled` is necessary.** `load q` (it probes `x`, finds nothing, returns `1`); its
registration is still in the channel and `q` is cached. Then `load x`: a clean load, and nothing
registered is concerned (`NoProbedKeyFilled` holds: the graph is empty) — but it fills the key the
pending registration of the cached `q` lists. After `hot_reload()` `q` is registered and holds `1`
although re-evaluating its loader returns `2`. -/
theorem C05_load_pending_false_fill :
    ∃ (env : Env) (fuel : Nat) (x : St × RSt) (key : Key),
      env.Steady ∧ SInvC env fuel x ∧ CleanLoad env fuel x.1 key ∧
      NoProbedKeyFilled x.1 (step env fuel x.1 (.load key)).1 x.2.graph ∧
      ¬ NoLivePendingKeyFilled x.1 (step env fuel x.1 (.load key)).1 ∧
      StaleAt env fuel (runH fuel [(env, .api (.load key)), (env, .hotReload)] x) ⟨0, "q"⟩ ∧
      ¬ Settled env fuel (runH fuel [(env, .api (.load key)), (env, .hotReload)] x).1
          (runH fuel [(env, .api (.load key)), (env, .hotReload)] x).2.graph := by
  have hinv := (SInvC.init cxEnv 10).step cxEnv_steady (.api (.load ⟨0, "q"⟩)) (StepOKC.load (loadOKC_of_check (by decide)))
  have hst : StaleAt cxEnv 10 (runH 10 [(cxEnv, .api (.load ⟨0, "x"⟩)), (cxEnv, .hotReload)]
      (runH 10 [(cxEnv, .api (.load ⟨0, "q"⟩))] ({}, {}))) ⟨0, "q"⟩ := staleAt_of_check (by decide)
  exact ⟨cxEnv, 10, runH 10 [(cxEnv, .api (.load ⟨0, "q"⟩))] ({}, {}), ⟨0, "x"⟩, cxEnv_steady, hinv, by decide,
    noProbedKeyFilled_of_check (by decide),
    fun h => absurd (noLivePendingKeyFilled_check_of h) (by decide), hst, hst.not_settled⟩

/-- **The part of `NoDependentOnC` on the channel is necessary**: `load b` (which loads `e`), the two
registrations still in the channel, `remove e`: the graph is empty, so nothing REGISTERED depends on `e`
— but the pending registration of the cached `b` lists it. After `hot_reload()` re-evaluating `b` misses
`e`: it is not a tracked hit-only run, `b` is not settled. -/
theorem C05_remove_pending_breaks_settled :
    ∃ (env : Env) (fuel : Nat) (x : St × RSt) (key : Key),
      env.Steady ∧ SInvC env fuel x ∧
      (∀ k node c, x.2.graph.get (.asset k) = some node → node.typed = true → x.1.lookup k = some c → c.dyn = true →
        k ≠ key → Dep.asset key ∉ node.deps) ∧
      ¬ NoDependentOnC x.1 x.2.graph key ∧
      ¬ Settled env fuel (runH fuel [(env, .api (.remove key)), (env, .hotReload)] x).1
          (runH fuel [(env, .api (.remove key)), (env, .hotReload)] x).2.graph := by
  have hinv := (SInvC.init _ 10).step (exEnv_steady _ _) (.api (.load kb)) (StepOKC.load exLoad_kb.toC)
  have hbad : ¬ Settled (exEnv [1, 0] [10]) 10
      (runH 10 [(exEnv [1, 0] [10], .api (.remove ke)), (exEnv [1, 0] [10], .hotReload)]
        (runH 10 [(exEnv [1, 0] [10], .api (.load kb))] ({}, {}))).1
      (runH 10 [(exEnv [1, 0] [10], .api (.remove ke)), (exEnv [1, 0] [10], .hotReload)]
        (runH 10 [(exEnv [1, 0] [10], .api (.load kb))] ({}, {}))).2.graph :=
    not_settled_of_miss (k := kb) (by decide)
  refine ⟨exEnv [1, 0] [10], 10, runH 10 [(exEnv [1, 0] [10], .api (.load kb))] ({}, {}), ke, exEnv_steady _ _, hinv,
    fun k node c hg => (by cases hg), ?_, hbad⟩
  intro hdep
  exact hbad ((hinv.step (exEnv_steady _ _) (.api (.remove ke)) (Or.inr hdep)).step_reloader (exEnv_steady _ _)
    .hotReload rfl (fun _ h => absurd (by decide) h)).1

/-! ## Histories with `load_owned` (`Lemmas/Channel.lean`)

`load_owned(key)` from the API runs the loader of `key` under its own frame and registers `key` with what
the frame recorded, but caches nothing for `key` (`step_loadOwned_facts`): the graph gets a typed node for
a key that is not cached — skipped by `reload`, and `Settled` does not speak of it (`MsgGoodIf` holds
vacuously). The assets the owned load cached ON THE WAY are registered by good messages as for a load
(`clean_out` on the body). -/

/-- **What `load_owned` from the API does to the cache and the channel** (hot type, reloader): nothing is
cached for `key` by the call itself — the cache is the one the loader body ended in —, and `key` is
registered with what the body recorded when the body returned a value. -/
theorem C05_load_owned_registers_uncached (env : Env) (f : Nat) (s : St) (key : Key)
    (hb : recordsAsset (env.types key.ty).hot env.hasReloader = true) :
    (∀ k, (step env (f + 1) s (.loadOwned key)).1.lookup k = (ownedBody env (f + 1) s key).1.lookup k) ∧
    (step env (f + 1) s (.loadOwned key)).1.out = (ownedBody env (f + 1) s key).1.out ++
      (match (ownedBody env (f + 1) s key).2 with
       | .ok _ => [.addAsset key (ownedBody env (f + 1) s key).1.top]
       | _ => []) :=
  step_loadOwned_facts env f s key hb

/-! ### Non-vacuity -/

/-- `load_owned b` (loads and caches `e` on the way; registers `b`, which is NOT cached), `hot_reload()`,
`load b`, `load_owned b` (now `b` is cached: the owned load returns the cached value), `clear`,
`load_owned b` again, `hot_reload()` -/
def exOwnedHistory : List (Env × HOp) :=
  [(exEnv [1, 0] [10], .api (.loadOwned kb)), (exEnv [1, 0] [10], .hotReload),
   (exEnv [1, 0] [10], .api (.load kb)), (exEnv [1, 0] [10], .api (.loadOwned kb)),
   (exEnv [1, 0] [10], .api .clear), (exEnv [1, 0] [10], .api (.loadOwned kb)), (exEnv [1, 0] [10], .hotReload)]

theorem exOwnedHistory_ok : HistP (StepOKO (exEnv [1, 0] [10]) 10) (exEnv [1, 0] [10]) 10 exOwnedHistory ({}, {}) :=
  .cons _ _ _ (StepOKO.loadOwned (loadOwnedOK_of_check (by decide)))
    (.cons _ _ _ (StepOK.of_idle rfl (by decide)).toC.toO
      (.cons _ _ _ (StepOKC.load (loadOKC_of_check (by decide))).toO
        (.cons _ _ _ (StepOKO.loadOwned (loadOwnedOK_of_check (by decide)))
          (.cons _ _ _ StepOKC.clear.toO
            (.cons _ _ _ (StepOKO.loadOwned (loadOwnedOK_of_check (by decide)))
              (.cons _ _ _ (StepOK.of_idle rfl (by decide)).toC.toO (.nil _)))))))

/-- **Non-vacuity** of `C05_history_with_load_owned_partial`: settled after both `hot_reload()`s -/
example :
    Settled (exEnv [1, 0] [10]) 10 (runH 10 (exOwnedHistory.take 2) ({}, {})).1 (runH 10 (exOwnedHistory.take 2) ({}, {})).2.graph ∧
    Settled (exEnv [1, 0] [10]) 10 (runH 10 exOwnedHistory ({}, {})).1 (runH 10 exOwnedHistory ({}, {})).2.graph :=
  ⟨(C05_history_with_load_owned_partial (exEnv [1, 0] [10]) (exEnv_steady _ _) 10 exOwnedHistory exOwnedHistory_ok
      [(exEnv [1, 0] [10], .api (.loadOwned kb))] .hotReload _ rfl rfl).1,
   (C05_history_with_load_owned_partial (exEnv [1, 0] [10]) (exEnv_steady _ _) 10 exOwnedHistory exOwnedHistory_ok
      [(exEnv [1, 0] [10], .api (.loadOwned kb)), (exEnv [1, 0] [10], .hotReload),
       (exEnv [1, 0] [10], .api (.load kb)), (exEnv [1, 0] [10], .api (.loadOwned kb)),
       (exEnv [1, 0] [10], .api .clear), (exEnv [1, 0] [10], .api (.loadOwned kb))] .hotReload [] rfl rfl).1⟩

/-- what happens in that history: the first `load_owned b` returns `11`, caches `e` but not `b`, and sends
the registrations of `e` and of `b`; after the `hot_reload()` the graph has a typed node for the uncached `b`;
the second `load_owned b` (with `b` cached) returns the cached `11` and registers `b` again -/
example :
    (step (exEnv [1, 0] [10]) 10 {} (.loadOwned kb)).2 = .value (.int 11) ∧
    (runH 10 (exOwnedHistory.take 1) ({}, {})).1.lookup kb = none ∧
    (runH 10 (exOwnedHistory.take 1) ({}, {})).1.lookup ke = some ⟨.int 10, true, 0, false, 0⟩ ∧
    (runH 10 (exOwnedHistory.take 1) ({}, {})).1.out =
      [.addAsset ke [.file "e" "s"], .addAsset kb [.file "b" "s", .asset ke]] ∧
    ((runH 10 (exOwnedHistory.take 2) ({}, {})).2.graph.get (.asset kb)).map (·.typed) = some true ∧
    (runH 10 (exOwnedHistory.take 2) ({}, {})).1.lookup kb = none ∧
    (step (exEnv [1, 0] [10]) 10 (runH 10 (exOwnedHistory.take 3) ({}, {})).1 (.loadOwned kb)).2 = .value (.int 11) ∧
    (runH 10 (exOwnedHistory.take 4) ({}, {})).1.out.length = 2 := by decide +kernel

/-! ### The hypotheses on a `load_owned` are necessary; nested `load_owned` -/

/-- **A `load_owned` of a cached key returns the cached value** in every state of the invariant: the key
is registered or has a registration in the channel (`Reg`), so re-evaluating its loader is a tracked
hit-only run that returns what the entry holds (`Settled` / `LastGood`), and the owned load is that run. -/
theorem C05_load_owned_cached_agrees (env : Env) (fuel : Nat) (x : St × RSt) (key : Key) (hx : SInvC env fuel x) :
    OwnedAgrees env fuel x.1 key :=
  OwnedAgrees.of_known hx.pending (hx.pending.reg key)

/-- **Why the invariant carries `Reg`** (every cached dynamic entry is registered or has a registration in
the channel): `Settled`, a drained channel, an exact index, a live reloader are NOT enough for `load_owned`.
A state with nothing registered (`Settled` holds vacuously) in which `x` is cached with `99` although its
loader returns `0`: `load_owned x` is a clean owned load that fills nothing — it returns `0` and REGISTERS
`x`. After `hot_reload()` `x` is registered, cached, and holds `99`. (Such a state is not reachable: a dynamic
entry is created by a load that misses, which registers it.) -/
theorem C05_load_owned_needs_registered :
    ∃ (env : Env) (fuel : Nat) (x : St × RSt) (key : Key),
      env.Steady ∧ x.1.out = [] ∧ Settled env fuel x.1 x.2.graph ∧ GraphOK x.2.graph ∧ x.2.dead = false ∧
      LoadOwnedOK env fuel x.1 x.2 key ∧
      ¬ Reg x.1 x.2.graph ∧ ¬ OwnedAgrees env fuel x.1 key ∧
      StaleAt env fuel (runH fuel [(env, .api (.loadOwned key)), (env, .hotReload)] x) key ∧
      ¬ Settled env fuel (runH fuel [(env, .api (.loadOwned key)), (env, .hotReload)] x).1
          (runH fuel [(env, .api (.loadOwned key)), (env, .hotReload)] x).2.graph := by
  have hst : StaleAt cxEnv 10 (runH 10 [(cxEnv, .api (.loadOwned ⟨0, "x"⟩)), (cxEnv, .hotReload)]
      ({ map := [(⟨0, "x"⟩, ⟨.int 99, true, 0, false, 0⟩)], next := 1 }, {})) ⟨0, "x"⟩ := staleAt_of_check (by decide)
  refine ⟨cxEnv, 10, ({ map := [(⟨0, "x"⟩, ⟨.int 99, true, 0, false, 0⟩)], next := 1 }, {}), ⟨0, "x"⟩, cxEnv_steady, rfl,
    settled_nil _ _ _, graphOK_nil, rfl, loadOwnedOK_of_check (by decide), ?_,
    fun h => absurd (ownedAgrees_check_of h) (by decide), hst, hst.not_settled⟩
  intro hreg
  rcases hreg ⟨0, "x"⟩ ⟨.int 99, true, 0, false, 0⟩ (by decide) rfl with ⟨node, hg, _⟩ | ⟨D, hm⟩
  · cases hg
  · cases hm

/-- **`NoProbedKeyFilled` is necessary for `load_owned` too** (for the keys it caches on the way): `load r`
(it probes `x`, finds nothing, returns `1`), `hot_reload()`: everything is settled. `load_owned w`: a clean
owned load of a key that is not cached — whose loader loads `x`: it fills the key `r` probed. Re-evaluating
`r` returns `2` now; `r` holds `1`. -/
theorem C05_load_owned_false_fill :
    ∃ (env : Env) (fuel : Nat) (x : St × RSt) (key : Key),
      env.Steady ∧ SInvC env fuel x ∧ CleanLoadOwned env fuel x.1 key ∧
      NoLivePendingKeyFilled x.1 (step env fuel x.1 (.loadOwned key)).1 ∧
      ¬ NoProbedKeyFilled x.1 (step env fuel x.1 (.loadOwned key)).1 x.2.graph ∧
      StaleAt env fuel (runH fuel [(env, .api (.loadOwned key)), (env, .hotReload)] x) kr ∧
      ¬ Settled env fuel (runH fuel [(env, .api (.loadOwned key)), (env, .hotReload)] x).1
          (runH fuel [(env, .api (.loadOwned key)), (env, .hotReload)] x).2.graph := by
  have hinv := (((SInvC.init lwEnv 10).step lwEnv_steady (.api (.load kr))
    (StepOKC.load (loadOKC_of_check (by decide)))).step_reloader lwEnv_steady .hotReload rfl
      (fun _ h => absurd (by decide) h)).2.2
  have hst : StaleAt lwEnv 10 (runH 10 [(lwEnv, .api (.loadOwned ⟨0, "w"⟩)), (lwEnv, .hotReload)]
      (runH 10 [(lwEnv, .api (.load kr)), (lwEnv, .hotReload)] ({}, {}))) kr := staleAt_of_check (by decide)
  refine ⟨lwEnv, 10, runH 10 [(lwEnv, .api (.load kr)), (lwEnv, .hotReload)] ({}, {}), ⟨0, "w"⟩, lwEnv_steady, hinv,
    ⟨by decide, by decide⟩, noLivePendingKeyFilled_of_check (by decide), ?_, hst, hst.not_settled⟩
  intro hfill
  exact hst.not_settled ((hinv.stepO lwEnv_steady (.api (.loadOwned ⟨0, "w"⟩))
    (StepOKO.loadOwned ⟨⟨by decide, by decide⟩, hfill, noLivePendingKeyFilled_of_check (by decide)⟩)).step_reloader
      lwEnv_steady .hotReload rfl (fun _ h => absurd (by decide) h)).1

/-- **A `load_owned` nested in a loader is outside `Settled` by definition**: re-evaluating a loader that
starts with `load_owned` is never a tracked hit-only run (`hitRun` rejects `.loadOwned`: the parent records
`asset key`, but the value comes from re-running the child's loader, not from the cache) — so such an asset,
once registered and cached with a dynamic cell, is not settled, whatever the history. -/
theorem C05_nested_load_owned_never_settled (env : Env) (fuel : Nat) (s : St) (g : Graph) (key k0 : Key)
    (k : Except LErr Val → Prog) (node : GNode) (c : Cell)
    (hprog : (env.types key.ty).prog key.id = .loadOwned k0 k)
    (hg : g.get (.asset key) = some node) (ht : node.typed = true) (hc : s.lookup key = some c) (hd : c.dyn = true) :
    reloadHit env (fuel + 1) s key = false ∧ ¬ Settled env (fuel + 1) s g := by
  have h : reloadHit env (fuel + 1) s key = false := by
    unfold reloadHit
    rw [hprog]
    rfl
  refine ⟨h, fun hs => ?_⟩
  have := (hs key node c hg ht hc hd).hit
  rw [h] at this
  cases this

/-- … concretely: `load o` (the loader of `o` calls `load_owned x`) returns a handle, `o` is cached and
registered with the dependency `x`; it is not a clean load, and after `hot_reload()` `o` is not settled. -/
theorem C05_nested_load_owned_example :
    (step lwEnv 10 {} (.load ⟨0, "o"⟩)).2 = .handle 0 (.int 4) ∧
    ¬ CleanLoad lwEnv 10 {} ⟨0, "o"⟩ ∧
    (runH 10 [(lwEnv, .api (.load ⟨0, "o"⟩)), (lwEnv, .hotReload)] ({}, {})).1.lookup kx = none ∧
    ((runH 10 [(lwEnv, .api (.load ⟨0, "o"⟩)), (lwEnv, .hotReload)] ({}, {})).2.graph.get (.asset ⟨0, "o"⟩)).map (·.deps) =
      some [.asset kx] ∧
    ¬ Settled lwEnv 10 (runH 10 [(lwEnv, .api (.load ⟨0, "o"⟩)), (lwEnv, .hotReload)] ({}, {})).1
        (runH 10 [(lwEnv, .api (.load ⟨0, "o"⟩)), (lwEnv, .hotReload)] ({}, {})).2.graph :=
  ⟨by decide, by decide, by decide, by decide,
   not_settled_of_miss (x := runH 10 [(lwEnv, .api (.load ⟨0, "o"⟩)), (lwEnv, .hotReload)] ({}, {})) (k := ⟨0, "o"⟩)
     (by decide)⟩

end AmVerif.Props.C05
