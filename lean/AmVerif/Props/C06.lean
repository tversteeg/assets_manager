import AmVerif.Gen.Skel
import AmVerif.Lemmas.Entry
import AmVerif.Lemmas.TopoGraph
import AmVerif.Props.C18
/-!
# C06 — reloads are precise and every one is reported exactly once

Bookkeeping half of the property, over the sequential model of the reloader (`Model/Reload.lean`):

* a `reload_untyped` either writes its own key's dynamic cell exactly once — new value, reload id
  `+1` (`AtomicReloadId::increment`, regenerated), global flag set — after a *successful* evaluation
  of the loader, or leaves every existing cell alone (`C06_write_increments`);
* through every pass a reload id never decreases, and a cell that differs in any way from what it
  was has a strictly larger id and its global flag set (`C06_rid_only_grows`): a rewrite is always
  reported, and nothing is reported without a rewrite;
* with a duplicate-free update list each id grows by at most one per pass (`C06_at_most_once`); the
  sorted list of `run_update` is duplicate-free whatever the graph (`topo_nodup`), hence
  `C06_at_most_once_per_update`, `C06_at_most_once_per_pass`;
* only listed keys are touched (`C06_only_listed_written`), nothing at all happens without
  events (`C06_no_event_no_write`), events for unknown entries are dropped;
* static entries show `NEVER` forever (`C06_static_rid_never`);
* a `ReloadWatcher` / `reloaded_global` answers `true` exactly when the id grew / a write happened
  since it was last asked (`C06_watcher_exact`, `C06_global_exact`);
* `UntypedEntry::write` increments inside the write-lock scope, after the swap (`C06_write_skel`),
  which is what read-after-report needs (`C07_rid_never_ahead`, the interleaving theorem of C07).

Which keys end up in the update list (reachability along `rdeps` from the notified entries) is the
graph half (`C05_reload_list_exact`, `Props/C05.lean`).
-/
namespace AmVerif.Props.C06
open AmVerif.Gen AmVerif.Model AmVerif.Props.C18

/-! ## Concrete instances used by the `example`s below -/

/-- a cache with reloader; every type is hot-reloaded and loads to `n` -/
def exEnv (n : Int) : Env :=
  { read := fun _ _ _ => .ok [], readDir := fun _ _ => .ok [],
    types := fun _ => { hot := true, prog := fun _ => .ret (.int n) }, hasReloader := true }

/-- the same cache over a source on which every loader fails -/
def exEnvFail : Env :=
  { read := fun _ _ _ => .ok [], readDir := fun _ _ => .ok [],
    types := fun _ => { hot := true, prog := fun _ => .fail (.custom "x") }, hasReloader := true }

def exKey : Key := ⟨0, "a"⟩
def exKey2 : Key := ⟨0, "b"⟩

/-- a cache holding two dynamic entries known to the reloader, and a static one -/
def exLoaded : St × RSt :=
  runH 5 [(exEnv 1, .api (.load exKey)), (exEnv 1, .api (.load exKey2)), (exEnv 1, .api (.getOrInsert ⟨1, "c"⟩ (.int 9))),
    (exEnv 1, .hotReload)] ({}, {})

example : exLoaded.1.lookup exKey = some ⟨.int 1, true, 0, false, 0⟩ ∧
    exLoaded.1.lookup exKey2 = some ⟨.int 1, true, 0, false, 1⟩ ∧
    exLoaded.1.lookup ⟨1, "c"⟩ = some ⟨.int 9, false, 0, false, 2⟩ ∧ exLoaded.2.toReload = [] ∧ exLoaded.1.out = [] := by
  decide +kernel

/-! ## The regenerated pieces -/

/-- `AtomicReloadId::increment` adds exactly one (one `fetch_add(1)`). -/
theorem increment_cfg : ∀ n, (AtomicReloadId_increment n).2 = n + 1 := fun _ => rfl

theorem never_cfg : ReloadId_NEVER = 0 := rfl

/-- a failed reload is reported to the graph as "not reloaded", a panic is caught -/
theorem failedReloadKeepsNewDeps_cfg : failedReloadKeepsNewDeps = true := by decide
theorem reloadCatchesPanic_cfg : reloadCatchesPanic = true := by decide
/-- `DepsGraph::insert` has the shape the graph model transcribes: a reverse edge is added for every dependency and removed for
EVERY dependency that is no longer read, unconditionally (the `rdeps`-exactness theorems of `Lemmas/Graph.lean` are about that model;
without this obligation an `insert` that cleans only sometimes would leave stale reverse edges, i.e. spurious reloads) -/
theorem C06_insert_cleans_exactly_cfg : depsInsertCleansExactly = true := by decide

example : ReloadId_NEVER = 0 ∧ failedReloadKeepsNewDeps = true := ⟨never_cfg, failedReloadKeepsNewDeps_cfg⟩

example : (AtomicReloadId_increment 41).2 = 42 := increment_cfg 41

/-! ## (a) one `reload_untyped` -/

/-- **A write is exactly one increment; everything else is left alone.** For every environment, fuel,
cache state and key:
1. no other key's existing cell is touched (nested loads may *add* cells);
2. an absent key: nothing happens;
3. if the call reports a reload (`wrote`), the cell was dynamic, the loader had evaluated to `ok v`,
   and the key's cell is the old one with `val := v`, `rid := old + 1`, `flag := true`;
4. if it does not (skipped static entry, loader error, loader panic, divergence), the key's cell is
   unchanged — in particular its reload id and flag. -/
theorem C06_write_increments (env : Env) (fuel : Nat) (s : St) (key : Key) :
    (∀ k c, k ≠ key → s.lookup k = some c → (reloadUntyped env fuel s key).1.lookup k = some c) ∧
    (s.lookup key = none → reloadUntyped env fuel s key = (s, .done none)) ∧
    (∀ c, s.lookup key = some c →
      ((reloadUntyped env fuel s key).2.wrote = true →
        c.dyn = true ∧ ∃ v, (reloadEval env fuel s key).2.1 = .ok v ∧
          (reloadUntyped env fuel s key).1.lookup key =
            some { c with val := v, rid := (AtomicReloadId_increment c.rid).2, flag := true }) ∧
      ((reloadUntyped env fuel s key).2.wrote = false →
        (reloadUntyped env fuel s key).1.lookup key = some c)) := by
  refine ⟨fun k c hk h => reloadUntyped_other env fuel s key k c hk h,
    reloadUntyped_absent env fuel s key, ?_⟩
  intro c hc
  obtain ⟨s1, hle, _, ⟨hw, e⟩ | ⟨c0, v, hc0, hd, hv, hw, e⟩⟩ := reloadUntyped_cases env fuel s key
  · refine ⟨fun h => ?_, fun _ => ?_⟩
    · rw [hw] at h; cases h
    · rw [e]; exact hle key c hc
  · obtain rfl : c0 = c := Option.some.inj (hc0.symm.trans hc)
    refine ⟨fun _ => ⟨hd, v, hv, ?_⟩, fun h => ?_⟩
    · rw [e, if_pos rfl]; rfl
    · rw [hw] at h; cases h

/-- a successful reload: value swapped, id `NEVER + 1`, flag set, the other entry untouched -/
example : (reloadUntyped (exEnv 2) 5 exLoaded.1 exKey).2.wrote = true ∧
    (reloadUntyped (exEnv 2) 5 exLoaded.1 exKey).1.lookup exKey = some ⟨.int 2, true, 1, true, 0⟩ ∧
    (reloadUntyped (exEnv 2) 5 exLoaded.1 exKey).1.lookup exKey2 = some ⟨.int 1, true, 0, false, 1⟩ := by decide +kernel

/-- a failed reload: reported as such, nothing changes -/
example : (reloadUntyped exEnvFail 5 exLoaded.1 exKey).2.wrote = false ∧
    (reloadUntyped exEnvFail 5 exLoaded.1 exKey).1.lookup exKey = some ⟨.int 1, true, 0, false, 0⟩ := by decide +kernel

/-- the write never happens on a failed evaluation: the reported outcome is a success only if the
loader returned a value (errors, panics and divergence never bump the id) -/
theorem C06_no_increment_on_failure (env : Env) (fuel : Nat) (s : St) (key : Key) (c : Cell)
    (hc : s.lookup key = some c) (hfail : ∀ v, (reloadEval env fuel s key).2.1 ≠ .ok v) :
    (reloadUntyped env fuel s key).1.lookup key = some c := by
  have h := (C06_write_increments env fuel s key).2.2 c hc
  cases hw : (reloadUntyped env fuel s key).2.wrote with
  | false => exact h.2 hw
  | true =>
    obtain ⟨_, v, hv, _⟩ := h.1 hw
    exact absurd hv (hfail v)

example : (reloadUntyped exEnvFail 5 exLoaded.1 exKey).1.lookup exKey = some ⟨.int 1, true, 0, false, 0⟩ :=
  C06_no_increment_on_failure exEnvFail 5 exLoaded.1 exKey _ (by decide +kernel) (by
    intro v h
    have e : (reloadEval exEnvFail 5 exLoaded.1 exKey).2.1 = .err (.custom "x") := by decide +kernel
    rw [e] at h; cases h)

/-! ## (b) reload ids only grow, and every change is reported -/

/-- `c'` relates to the earlier `c` as the statement demands: the id did not decrease; if the
cell differs in any way (value, id or flag) then the id is strictly larger and the global flag is
set; kind and address are the same. -/
def Reported (c c' : Cell) : Prop :=
  c.rid ≤ c'.rid ∧ (c' ≠ c → c.rid < c'.rid ∧ c'.flag = true ∧ c.dyn = true) ∧
  c'.dyn = c.dyn ∧ c'.addr = c.addr

theorem reported_of_ev {c c' : Cell} (h : c.Ev c') : Reported c c' := by
  refine ⟨h.rid_le, fun hne => ?_, h.1, h.2.1⟩
  rcases h.2.2 with e | ⟨hd, hr, hf⟩
  · exact absurd e hne
  · exact ⟨hr, hf, hd⟩

example : Reported ⟨.int 1, true, 0, false, 0⟩ ⟨.int 2, true, 1, true, 0⟩ :=
  reported_of_ev (Cell.ev_written ⟨.int 1, true, 0, false, 0⟩ (.int 2) rfl)

/-- a changed value has a strictly larger id: a rewrite is always reported -/
theorem Reported.val_changed {c c' : Cell} (h : Reported c c') (hv : c'.val ≠ c.val) : c.rid < c'.rid :=
  (h.2.1 (fun e => hv (by rw [e]))).1

example : (0 : Nat) < 1 :=
  (reported_of_ev (Cell.ev_written ⟨.int 1, true, 0, false, 0⟩ (.int 2) rfl)).val_changed (by decide +kernel)

/-- an unchanged id means an unchanged cell: nothing is rewritten without being reported -/
theorem Reported.same_rid {c c' : Cell} (h : Reported c c') (hr : c'.rid = c.rid) : c' = c := by
  apply Decidable.byContradiction
  intro hne
  have := (h.2.1 hne).1
  omega

example (c : Cell) : c = c := (reported_of_ev (Cell.Ev.refl c)).same_rid rfl

/-- **Through every pass** (`reloadAll` over any list, `runUpdate`, `handleEvents` for any events,
`hotReload`, `enhance`), for every environment, fuel and state: every stored cell is still stored and
`Reported`. -/
theorem C06_rid_only_grows (env : Env) (fuel : Nat) (s : St) (r : RSt) (k : Key) (c : Cell)
    (hc : s.lookup k = some c) :
    (∀ keys, ∃ c', (reloadAll env fuel keys (s, r)).1.lookup k = some c' ∧ Reported c c') ∧
    (∃ c', (runUpdate env fuel s r).1.lookup k = some c' ∧ Reported c c') ∧
    (∀ evs, ∃ c', (handleEvents env fuel s r evs).1.lookup k = some c' ∧ Reported c c') ∧
    (∃ c', (hotReload env fuel s r).1.lookup k = some c' ∧ Reported c c') ∧
    (∃ c', (enhance env fuel s r).1.lookup k = some c' ∧ Reported c c') := by
  have lift : ∀ t : St, s.Ev t → ∃ c', t.lookup k = some c' ∧ Reported c c' := by
    intro t h
    obtain ⟨c', h1, e⟩ := h k c hc
    exact ⟨c', h1, reported_of_ev e⟩
  exact ⟨fun keys => lift _ (reloadAll_ev env fuel keys s r), lift _ (runUpdate_ev env fuel s r),
    fun evs => lift _ (handleEvents_ev env fuel s r evs), lift _ (hotReload_ev env fuel s r),
    lift _ (enhance_ev env fuel s r)⟩

example : ∃ c', (hotReload (exEnv 2) 5 exLoaded.1 { exLoaded.2 with toReload := [.asset exKey] }).1.lookup exKey = some c' ∧
    Reported ⟨.int 1, true, 0, false, 0⟩ c' :=
  (C06_rid_only_grows (exEnv 2) 5 exLoaded.1 _ exKey _ (by decide +kernel)).2.2.2.1
/-- … and that pass did rewrite the entry -/
example : (hotReload (exEnv 2) 5 exLoaded.1 { exLoaded.2 with toReload := [.asset exKey] }).1.lookup exKey =
    some ⟨.int 2, true, 1, true, 0⟩ := by decide +kernel

/-- … and through every history that does not remove the key (API operations never touch the id). -/
theorem C06_rid_only_grows_history (fuel : Nat) (h : List (Env × HOp)) (x : St × RSt) (k : Key) (c : Cell)
    (hc : x.1.lookup k = some c) (hkeep : ∀ e ∈ h, e.2.removes k = false) :
    ∃ c', (runH fuel h x).1.lookup k = some c' ∧ Reported c c' := by
  obtain ⟨c', h1, e⟩ := runH_ev fuel h x k c hkeep hc
  exact ⟨c', h1, reported_of_ev e⟩

example : ∃ c', (runH 5 [(exEnv 2, .notify [.asset exKey]), (exEnv 2, .api (.remove exKey2)), (exEnv 2, .hotReload)]
    exLoaded).1.lookup exKey = some c' ∧ Reported ⟨.int 1, true, 0, false, 0⟩ c' :=
  C06_rid_only_grows_history 5 _ exLoaded exKey _ (by decide +kernel) (by decide +kernel)

/-! ## (c) at most one write per asset and pass -/

/-- With a duplicate-free update list (`hnd`: what `topo` returns — graph theorem), after the pass
every cell's reload id is at most one more than before; `ridOf` is `NEVER` for a key that was absent
(an entry created by a nested load during the pass and then reloaded in the same pass shows at most
`NEVER + 1`). -/
theorem C06_at_most_once (env : Env) (fuel : Nat) (keys : List Key) (s : St) (r : RSt) (hnd : keys.Nodup)
    (k : Key) (c' : Cell) (h : (reloadAll env fuel keys (s, r)).1.lookup k = some c') :
    c'.rid ≤ s.ridOf k + 1 :=
  reloadAll_rid_le_succ env fuel keys s r hnd k c' h

/-- duplicate keys in a list WOULD write twice: the `Nodup` hypothesis matters -/
example : ((reloadAll (exEnv 2) 5 [exKey, exKey] exLoaded).1.lookup exKey).map (·.rid) = some 2 := by decide +kernel
example : ((reloadAll (exEnv 2) 5 [exKey, exKey2] exLoaded).1.lookup exKey).map (·.rid) = some 1 := by decide +kernel
example : (1 : Nat) ≤ exLoaded.1.ridOf exKey + 1 :=
  C06_at_most_once (exEnv 2) 5 [exKey, exKey2] exLoaded.1 exLoaded.2 (by decide +kernel) exKey ⟨.int 2, true, 1, true, 0⟩ (by decide +kernel)

/-- the same, for a cell that was stored before: exactly `old` or `old + 1` -/
theorem C06_at_most_once_stored (env : Env) (fuel : Nat) (keys : List Key) (s : St) (r : RSt) (hnd : keys.Nodup)
    (k : Key) (c : Cell) (hc : s.lookup k = some c) :
    ∃ c', (reloadAll env fuel keys (s, r)).1.lookup k = some c' ∧ (c'.rid = c.rid ∨ c'.rid = c.rid + 1) := by
  obtain ⟨c', h1, e⟩ := reloadAll_ev env fuel keys s r k c hc
  have h2 := reloadAll_rid_le_succ env fuel keys s r hnd k c' h1
  have h3 := e.rid_le
  simp only [St.ridOf, hc] at h2
  exact ⟨c', h1, by omega⟩

example : ∃ c', (reloadAll (exEnv 2) 5 [exKey, exKey2] exLoaded).1.lookup exKey = some c' ∧ (c'.rid = 0 ∨ c'.rid = 0 + 1) :=
  C06_at_most_once_stored (exEnv 2) 5 [exKey, exKey2] exLoaded.1 exLoaded.2 (by decide +kernel) exKey
    ⟨.int 1, true, 0, false, 0⟩ (by decide +kernel)

/-- nothing written: the id of a stored cell is the id `ridOf` shows -/
theorem rid_le_ridOf_succ {s : St} {k : Key} {c : Cell} (h : s.lookup k = some c) : c.rid ≤ s.ridOf k + 1 := by
  simp only [St.ridOf, h]
  exact Nat.le_succ _

/-- One `run_update` (the pass `hot_reload` / `handle_events` run): whatever the graph (cyclic look-ups included), the
sorted list has no duplicates (`topo_nodup`), so no reload id is raised by more than one. -/
theorem C06_at_most_once_per_update (env : Env) (fuel : Nat) (s : St) (r : RSt)
    (k : Key) (c' : Cell) (h : (runUpdate env fuel s r).1.lookup k = some c') :
    c'.rid ≤ s.ridOf k + 1 := by
  rcases runUpdate_form env fuel s r with ⟨_, e⟩ | ⟨keys, hk, e⟩
  · rw [e] at h; exact rid_le_ridOf_succ h
  · rw [e] at h
    exact reloadAll_rid_le_succ env fuel keys s _ (AmVerif.Lemmas.TopoGraph.topo_nodup hk) k c' h

/-- the sorted list of a concrete pass has no duplicates -/
example : topo exLoaded.2.graph 5 [.asset exKey, .asset exKey2] = some [exKey2, exKey] ∧ [exKey2, exKey].Nodup := by decide +kernel

/-- in static mode `hot_reload()` only drains the channel -/
example : (hotReload (exEnv 2) 5 exLoaded.1 { exLoaded.2 with static_ := true }).1.map = exLoaded.1.map := by decide +kernel

/-- **Each affected asset is rewritten at most once per pass**: whatever the graph (cyclic look-ups
included), the set of notified entries and the loaders, `hot_reload` raises no reload id by more than one. -/
theorem C06_at_most_once_per_pass (env : Env) (fuel : Nat) (s : St) (r : RSt)
    (k : Key) (c' : Cell) (h : (hotReload env fuel s r).1.lookup k = some c') :
    c'.rid ≤ s.ridOf k + 1 := by
  -- `hot_reload` does nothing, or only drains, or drains around one `run_update`; a drain leaves the map, hence `ridOf`, alone
  cases hd : r.dead with
  | true => rw [show hotReload env fuel s r = (s, r) from if_pos hd] at h; exact rid_le_ridOf_succ h
  | false =>
    cases hs : r.static_ with
    | true => rw [hotReload_static env fuel s r hd hs, processMsgs_lookup] at h; exact rid_le_ridOf_succ h
    | false =>
      rw [hotReload_local env fuel s r hd hs] at h
      exact C06_at_most_once_per_update env fuel (processMsgs s r).1 (processMsgs s r).2 k c' h

example : ((hotReload (exEnv 2) 5 exLoaded.1 { exLoaded.2 with toReload := [.asset exKey, .asset exKey2, .asset exKey] }).1.lookup
    exKey).map (·.rid) = some 1 := by decide +kernel

/-! ## (d) precision: only listed keys, nothing without events -/

/-- A pass touches only cells of keys in its update list. -/
theorem C06_only_listed_written (env : Env) (fuel : Nat) (keys : List Key) (s : St) (r : RSt) (k : Key) (c : Cell)
    (hk : k ∉ keys) (hc : s.lookup k = some c) : (reloadAll env fuel keys (s, r)).1.lookup k = some c :=
  reloadAll_frame env fuel keys s r k c hk hc

example : (reloadAll (exEnv 2) 5 [exKey] exLoaded).1.lookup exKey2 = some ⟨.int 1, true, 0, false, 1⟩ :=
  C06_only_listed_written (exEnv 2) 5 [exKey] exLoaded.1 exLoaded.2 exKey2 _ (by decide +kernel) (by decide +kernel)

/-- `run_update` touches only what `topo` lists (to be combined with `C05_reload_list_exact`: the list
is the set of assets reachable along `rdeps` from the notified entries). -/
theorem C06_only_sorted_written (env : Env) (fuel : Nat) (s : St) (r : RSt) (k : Key) (c : Cell)
    (hk : ∀ keys, topo r.graph fuel r.toReload = some keys → k ∉ keys) (hc : s.lookup k = some c) :
    (runUpdate env fuel s r).1.lookup k = some c := by
  rcases runUpdate_form env fuel s r with ⟨_, e⟩ | ⟨keys, hks, e⟩
  · rw [e]; exact hc
  · rw [e]; exact reloadAll_frame env fuel keys s _ k c (hk keys hks) hc

example : (runUpdate (exEnv 2) 5 exLoaded.1 { exLoaded.2 with toReload := [.asset exKey] }).1.lookup exKey2 =
    some ⟨.int 1, true, 0, false, 1⟩ :=
  C06_only_sorted_written (exEnv 2) 5 exLoaded.1 _ exKey2 _ (by decide +kernel) (by decide +kernel)

example : topo exLoaded.2.graph 5 [] = some [] := topo_nil _ _

example : (processMsgs (step (exEnv 1) 5 {} (.load exKey)).1 {}).2.toReload = [] ∧
    ((processMsgs (step (exEnv 1) 5 {} (.load exKey)).1 {}).2.graph.get (.asset exKey)).isSome = true := by decide +kernel

example : runUpdate (exEnv 2) 5 exLoaded.1 exLoaded.2 = exLoaded := runUpdate_idle _ _ _ _ (by decide +kernel)

/-- **No event, no write — and no read.** `hot_reload()` with an empty changed set: the cache is
exactly what it was except that the pending messages are consumed — same map (no cell rewritten, none
added), same number of source reads (`ios`: the reloader never re-reads on its own), same loader
invocation count. Holds in local and in static mode, for every environment (i.e. whatever was edited
without notification). -/
theorem C06_no_event_no_write (env : Env) (fuel : Nat) (s : St) (r : RSt) (h : r.toReload = []) :
    (hotReload env fuel s r).1.map = s.map ∧ (hotReload env fuel s r).1.ios = s.ios ∧
    (hotReload env fuel s r).1.loads = s.loads ∧ (hotReload env fuel s r).1.next = s.next := by
  cases hd : r.dead with
  | true => rw [show hotReload env fuel s r = (s, r) from if_pos hd]; exact ⟨rfl, rfl, rfl, rfl⟩
  | false => rw [hotReload_idle_eq env fuel s r hd h]; exact ⟨rfl, rfl, rfl, rfl⟩

/-- an edit that is never notified (`exEnv 2` instead of `exEnv 1`) is never picked up -/
example : (hotReload (exEnv 2) 5 exLoaded.1 exLoaded.2).1.map = exLoaded.1.map :=
  (C06_no_event_no_write (exEnv 2) 5 exLoaded.1 exLoaded.2 (by decide +kernel)).1
/-- a notified one is, once: the second `hot_reload` finds nothing to do -/
example : ((runH 5 [(exEnv 2, .notify [.asset exKey]), (exEnv 2, .hotReload), (exEnv 2, .hotReload)] exLoaded).1.lookup
    exKey).map (fun c => (c.val, c.rid, c.flag)) = some (.int 2, 1, true) := by decide +kernel

/-- with no pending messages either, `hot_reload()` is the identity on cache and reloader -/
theorem C06_idle_identity (env : Env) (fuel : Nat) (s : St) (r : RSt) (h : r.toReload = []) (ho : s.out = []) :
    hotReload env fuel s r = (s, r) := by
  cases hd : r.dead with
  | true => exact if_pos hd
  | false => exact (hotReload_idle_eq env fuel s r hd h).trans (processMsgs_nil s r ho)

example : hotReload (exEnv 2) 5 exLoaded.1 exLoaded.2 = exLoaded :=
  C06_idle_identity (exEnv 2) 5 exLoaded.1 exLoaded.2 (by decide +kernel) (by decide +kernel)

theorem keepEvents_unknown (g : Graph) (evs : List Dep) (l : List Dep) (h : ∀ e ∈ evs, g.get e = none) :
    keepEvents g evs l = l := by
  unfold keepEvents
  induction evs generalizing l with
  | nil => rfl
  | cons e es ih =>
    simp only [List.foldl, h e List.mem_cons_self, Option.isSome_none, Bool.false_eq_true, if_false]
    exact ih l (fun e' he' => h e' (List.mem_cons_of_mem _ he'))

example : [Dep.file "zz" "x"].foldl (fun l e => if (exLoaded.2.graph.get e).isSome then addIfAbsent e l else l) [] = [] :=
  keepEvents_unknown _ _ _ (by decide +kernel)

/-- notifications none of which names an entry of the graph (as it is once the pending registrations are in) are not taken -/
theorem takeEvents_unknown (s : St) (r : RSt) (evs : List Dep) (h : ∀ e ∈ evs, (processMsgs s r).2.graph.get e = none) :
    takeEvents s r evs = processMsgs s r := by
  unfold takeEvents
  rw [keepEvents_unknown _ evs _ h]

/-- **Events for unknown entries are dropped**: notifications none of which names an entry of the
dependency graph (as it is once the pending `AddAsset` messages are in) add nothing to the changed set:
`handle_events` behaves exactly as with no events at all. -/
theorem C06_unknown_events_ignored (env : Env) (fuel : Nat) (s : St) (r : RSt) (evs : List Dep)
    (h : ∀ e ∈ evs, (processMsgs s r).2.graph.get e = none) :
    handleEvents env fuel s r evs = handleEvents env fuel s r [] := by
  have ht : takeEvents s r evs = takeEvents s r [] :=
    (takeEvents_unknown s r evs h).trans (takeEvents_unknown s r [] (fun _ h => nomatch h)).symm
  cases hd : r.dead with
  | true => exact (if_pos hd).trans (if_pos hd).symm
  | false =>
    cases hs : r.static_ with
    | true => rw [handleEvents_static env fuel s r evs hd hs, handleEvents_static env fuel s r [] hd hs, ht]
    | false => rw [handleEvents_local' env fuel s r evs hd hs, handleEvents_local' env fuel s r [] hd hs, ht]

example : handleEvents (exEnv 2) 5 exLoaded.1 exLoaded.2 [.file "zz" "x", .dir "nowhere"] =
    handleEvents (exEnv 2) 5 exLoaded.1 exLoaded.2 [] :=
  C06_unknown_events_ignored _ _ _ _ _ (by decide +kernel)

/-- in particular, in local mode they leave the changed set as it was -/
theorem C06_unknown_events_toReload (env : Env) (fuel : Nat) (s : St) (r : RSt) (evs : List Dep)
    (hd : r.dead = false) (hs : (processMsgs s r).2.static_ = false)
    (h : ∀ e ∈ evs, (processMsgs s r).2.graph.get e = none) :
    handleEvents env fuel s r evs = processMsgs s r := by
  rw [handleEvents_local' env fuel s r evs hd ((processMsgs_static s r).symm.trans hs), takeEvents_unknown s r evs h]

example : handleEvents (exEnv 2) 5 exLoaded.1 exLoaded.2 [.file "zz" "x"] = processMsgs exLoaded.1 exLoaded.2 :=
  C06_unknown_events_toReload _ _ _ _ _ (by decide +kernel) (by decide +kernel) (by decide +kernel)
/-- whereas a known entry is kept -/
example : (handleEvents (exEnv 2) 5 exLoaded.1 exLoaded.2 [.asset exKey, .file "zz" "x", .asset exKey]).2.toReload = [.asset exKey] := by
  decide +kernel

/-! ## (e) static entries show `NEVER` forever -/

/-- what every stored static cell satisfies -/
def StaticNever : Key → Cell → Prop := fun _ c => c.dyn = false → c.rid = ReloadId_NEVER ∧ c.flag = false

/-- a static cell keeps its id (and everything else) through every pass (from C10) -/
theorem C06_static_rid_kept (env : Env) (fuel : Nat) (s : St) (r : RSt) (k : Key) (c : Cell)
    (hc : s.lookup k = some c) (hs : c.dyn = false) :
    (∀ keys, (reloadAll env fuel keys (s, r)).1.lookup k = some c) ∧
    (hotReload env fuel s r).1.lookup k = some c ∧
    (∀ evs, (handleEvents env fuel s r evs).1.lookup k = some c) :=
  ⟨fun keys => (reloadAll_ev env fuel keys s r).static hc hs, (hotReload_ev env fuel s r).static hc hs,
    fun evs => (handleEvents_ev env fuel s r evs).static hc hs⟩

example : (hotReload (exEnv 2) 5 exLoaded.1 { exLoaded.2 with toReload := [.asset ⟨1, "c"⟩, .asset exKey] }).1.lookup ⟨1, "c"⟩ =
    some ⟨.int 9, false, 0, false, 2⟩ :=
  (C06_static_rid_kept (exEnv 2) 5 exLoaded.1 _ ⟨1, "c"⟩ _ (by decide +kernel) rfl).2.1

/-- **Static entries keep `ReloadId::NEVER`** (and a clear global flag) at every point of every
history, from any state in which they do — e.g. the empty cache. -/
theorem C06_static_rid_never (fuel : Nat) (h : List (Env × HOp)) (x : St × RSt) (hs : x.1.All StaticNever) :
    (runH fuel h x).1.All StaticNever := by
  refine runH_all fuel StaticNever ?_ h x ?_ hs
  · intro k c v _ hd hst
    simp only [Cell.written] at hst; rw [hd] at hst; cases hst
  · intro e _
    exact ⟨fun _ _ _ _ => ⟨rfl, rfl⟩, fun _ _ _ _ => ⟨rfl, rfl⟩⟩

example : exLoaded.1.All StaticNever :=
  C06_static_rid_never 5 _ ({}, {}) (fun _ _ h => nomatch h)

/-- every entry starts at `NEVER` with a clear flag: whatever an API operation adds -/
theorem C06_starts_never (env : Env) (fuel : Nat) (s : St) (op : Op) (k : Key) (c : Cell)
    (hnew : s.lookup k = none) (h : (step env fuel s op).1.lookup k = some c) :
    c.rid = ReloadId_NEVER ∧ c.flag = false :=
  (step_added env fuel s op (fun _ c => c.rid = ReloadId_NEVER ∧ c.flag = false)
    ⟨fun _ _ _ => ⟨rfl, rfl⟩, fun _ _ _ => ⟨rfl, rfl⟩⟩).new h hnew

example : ReloadId_NEVER = 0 ∧ false = false :=
  C06_starts_never (exEnv 1) 5 {} (.load exKey) exKey ⟨.int 1, true, 0, false, 0⟩ rfl (by decide +kernel)

/-! ## (f) watchers -/

/-- `ReloadWatcher::reloaded`: `last_reload_id.update(reload_id.load())` -/
def poll (last cur : Nat) : Nat × Bool := ReloadId_update last cur

/-- a watcher polled at successive times, `obs` = the entry's reload id at those times -/
def pollAll : Nat → List Nat → List Bool
  | _, [] => []
  | last, cur :: rest => (poll last cur).2 :: pollAll (poll last cur).1 rest

/-- nondecreasing from `a` on (what `C06_rid_only_grows_history` gives for the ids of one entry) -/
def Mono : Nat → List Nat → Prop
  | _, [] => True
  | a, b :: rest => a ≤ b ∧ Mono b rest

/-- **A watcher answers `true` exactly when the id grew since the previous poll** (the first poll
compares with the id at creation, `last`), for every nondecreasing sequence of observed ids. -/
theorem C06_watcher_exact (last : Nat) (obs : List Nat) (h : Mono last obs) :
    pollAll last obs = List.zipWith (fun prev cur => decide (prev < cur)) (last :: obs) obs := by
  induction obs generalizing last with
  | nil => rfl
  | cons cur rest ih =>
    obtain ⟨h1, h2⟩ := h
    simp only [pollAll, poll, C18_update_max, List.zipWith_cons_cons, Nat.max_eq_right h1]
    rw [ih cur h2]

/-- watcher created at id 0, entry reloaded between some polls -/
example : pollAll 0 [0, 1, 1, 3, 3] = [false, true, false, true, false] := by decide +kernel
example : Mono 0 [0, 1, 1, 3, 3] := by simp [Mono]
example : pollAll 0 [0, 1, 1, 3, 3] = List.zipWith (fun prev cur => decide (prev < cur)) [0, 0, 1, 1, 3, 3] [0, 1, 1, 3, 3] :=
  C06_watcher_exact 0 _ (by simp [Mono])

/-- one poll against the model: a watcher that last saw cell `c` answers `true` at the evolved cell
`c'` iff the cell was rewritten in between (iff it is not the same cell). -/
theorem C06_watcher_model (c c' : Cell) (h : c.Ev c') :
    poll c.rid c'.rid = (c'.rid, decide (c' ≠ c)) := by
  simp only [poll, C18_update_max, Nat.max_eq_right h.rid_le]
  by_cases e : c' = c
  · subst e; simp
  · have := h.changed_rid_lt e
    simp [e, this]

example : poll 0 1 = (1, true) :=
  C06_watcher_model ⟨.int 1, true, 0, false, 0⟩ ⟨.int 2, true, 1, true, 0⟩ (Cell.ev_written _ (.int 2) rfl)

/-- `Handle::reloaded_global`: `reload_global.swap(false)` -/
def pollGlobal (c : Cell) : Cell × Bool := ({ c with flag := false }, c.flag)

/-- after `reloaded_global()` the flag is clear; from then on it is set iff the cell was rewritten -/
theorem C06_global_exact (c c' : Cell) (h : (pollGlobal c).1.Ev c') :
    (pollGlobal c').2 = decide (c' ≠ (pollGlobal c).1) := by
  simp only [pollGlobal] at h ⊢
  rcases h.2.2 with e | ⟨_, hr, hf⟩
  · rw [e]; simp
  · have hne : c' ≠ { c with flag := false } := by
      intro e; rw [e] at hr; exact Nat.lt_irrefl _ hr
    simp [hf, hne]

example : (pollGlobal ⟨.int 2, true, 1, true, 0⟩).2 = true ∧ (pollGlobal (pollGlobal ⟨.int 2, true, 1, true, 0⟩).1).2 = false := by
  decide +kernel

/-- the flag over time: `n` writes (each `store(true)`), then a poll (`swap(false)`) -/
def afterWrites (flag : Bool) : Nat → Bool
  | 0 => flag
  | n + 1 => afterWrites true n

def pollsGlobal : Bool → List Nat → List Bool
  | _, [] => []
  | flag, n :: rest => afterWrites flag n :: pollsGlobal false rest

theorem afterWrites_true (n : Nat) : afterWrites true n = true := by
  induction n with
  | zero => rfl
  | succ n ih => exact ih

example : afterWrites false 0 = false ∧ afterWrites false 3 = true := by decide +kernel

/-- **`reloaded_global` answers `true` exactly when at least one write happened since it was last
asked** (`ns` = number of writes between successive calls; the flag starts clear). -/
theorem C06_global_sequence (ns : List Nat) : pollsGlobal false ns = ns.map (fun n => decide (0 < n)) := by
  induction ns with
  | nil => rfl
  | cons n rest ih =>
    simp only [pollsGlobal, List.map_cons, ih]
    cases n with
    | zero => rfl
    | succ n => simp [afterWrites, afterWrites_true]

example : pollsGlobal false [0, 2, 0, 1] = [false, true, false, true] := by decide +kernel

/-! ## (g) the order inside `UntypedEntry::write` -/

/-- `UntypedEntry::write`, regenerated: on a dynamic entry, take the write lock, swap the value, THEN
`reload.increment()`, THEN `reload_global.store(true, Release)`, release the lock; on a static entry
`wrong_handle_type()` (panic).

Why this gives *read-after-report* (`C07_rid_never_ahead`, the interleaving theorem of C07): the id is
incremented while the write lock is held and after the value was swapped. A reader that saw
`watcher.reloaded() = true` for id `n` loaded an id `≥ n` (Acquire load of a Release `fetch_add`), so
the swap of write `n` happened before that load; its subsequent `read()` takes the read lock, which
cannot be granted between the swap and the release of write `n`'s write lock, and any later write
`m > n` has completed its swap before releasing — so the value read is that of a write `≥ n`.
Were the increment before the swap, or outside the lock scope, a reader could observe id `n` and
still read the value of write `n-1`. -/
theorem C06_write_skel : skel_entry_UntypedEntry_write =
    [.branch [[.acq .s_write 0, .call .s_get, .call .s_get_mut, .call .s_swap_any, .call .s_increment,
               .call .s_store_Release, .rel 0, .ret], []],
     .call .s_wrong_handle_type] := rfl

/-- the increment comes after the swap and before the release of guard 0 -/
example : (match skel_entry_UntypedEntry_write with
    | [.branch [[.acq .s_write g, _, _, .call .s_swap_any, .call .s_increment, _, .rel g', .ret], []], _] => g == g'
    | _ => false) = true := by decide +kernel

/-- `reloaded_global` reads and clears the global flag in one atomic `swap` (typed and untyped handle): the model's
`pollGlobal` step is atomic, so among concurrent pollers exactly one sees `true` per rewrite. -/
theorem C06_reloaded_global_is_one_swap : reloadedGlobalIsAtomicSwap = true := by decide

/-- Every successful load registers its dependency set with the reloader, empty or not (`HotReloader::add_asset` sends
unconditionally): a key loaded again after a removal gets its OLD dependencies replaced. -/
theorem C06_add_asset_always_sends :
    AmVerif.Gen.skel_hot_reloading_mod_HotReloader_add_asset = [.call .s_AddAsset, .call .s_send] := rfl

/-- A watcher created on an entry whose reload id is `n` starts from `n` (`ReloadWatcherInner::new` loads the current id), so its
first poll, with no rewrite in between, answers `false` and leaves it at `n`: only reloads that happen after its creation are reported. -/
theorem C06_new_watcher_is_quiet (n : Nat) : watcherStartsFromCurrentId = true ∧ ReloadId_update n n = (n, false) := by
  refine ⟨by decide, ?_⟩
  simp [ReloadId_update]

end AmVerif.Props.C06
