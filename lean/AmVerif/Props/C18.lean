import AmVerif.Model.Rid
/-!
# C18 — ReloadId bookkeeping is a monotone maximum, atomically

All statements are about the definitions regenerated from `src/entry.rs` (`AmVerif.Gen.Rid`).
-/
namespace AmVerif.Props.C18
open AmVerif.Gen AmVerif.Model AmVerif.Model.Rid

/-- `ReloadId::update` stores the larger id and reports `true` exactly when the stored id grew. -/
theorem C18_update_max (old new : Nat) :
    ReloadId_update old new = (max old new, decide (new > old)) := by
  unfold ReloadId_update
  by_cases h : new > old
  · simp [h, Nat.max_eq_right (Nat.le_of_lt h)]
  · simp [h, Nat.max_eq_left (Nat.le_of_not_gt h)]

/-- `NEVER` is the least id: offering it never changes anything and is never reported. -/
theorem C18_never_least (n : Nat) :
    ReloadId_NEVER ≤ n ∧ ReloadId_update n ReloadId_NEVER = (n, false) := by
  constructor
  · simp [ReloadId_NEVER]
  · rw [C18_update_max]; simp [ReloadId_NEVER]

/-- A fresh `AtomicReloadId` holds `NEVER`. -/
theorem C18_new_is_never : AtomicReloadId_new = ReloadId_NEVER := rfl

/-- `AtomicReloadId::update` is `fetch_max` + compare: stores the max, tells `true` iff it grew. -/
theorem C18_atomic_update (cell new : Nat) :
    AtomicReloadId_update new cell = (decide (new > cell), max cell new) := by
  simp [AtomicReloadId_update, AtomicReloadId_fetch_max, Atom.fetchMax]

/-- Every public operation of `AtomicReloadId` is exactly ONE atomic primitive, so a call has a
single linearisation point; the read-modify-write ones are RMW primitives (not load+store). -/
theorem C18_single_primitive :
    atomicPrims.all (fun mp => mp.2.length == 1) = true ∧
    atomicPrims.lookup .update = some [(.fetchMax, .AcqRel)] ∧
    atomicPrims.lookup .fetchMax = some [(.fetchMax, .AcqRel)] ∧
    atomicPrims.lookup .swap = some [(.swap, .AcqRel)] ∧
    atomicPrims.lookup .increment = some [(.fetchAdd, .Release)] := by
  decide

/-- Sequential meaning of every call at its linearisation point. -/
theorem C18_with_swap_store (cell : Nat) (c : Call) :
    step cell c = match c with
      | .update n   => (.told (decide (n > cell)), max cell n)
      | .fetchMax n => (.prev cell, max cell n)
      | .swap n     => (.prev cell, n)
      | .store n    => (.unit, n)
      | .load       => (.prev cell, cell)
      | .increment  => (.unit, cell + 1) := by
  cases c <;> simp [step, C18_atomic_update, AtomicReloadId_fetch_max, AtomicReloadId_swap,
    AtomicReloadId_store, AtomicReloadId_load, AtomicReloadId_increment,
    Atom.fetchMax, Atom.swap, Atom.store, Atom.load, Atom.fetchAdd]

/-- the first `update` of a run: the cell takes the maximum, the caller is told whether it grew -/
theorem run_updates_cons (cell n : Nat) (ns : List Nat) :
    run cell (updates (n :: ns)) =
      ((run (max cell n) (updates ns)).1, .told (decide (n > cell)) :: (run (max cell n) (updates ns)).2) := by
  simp [updates, run, step, C18_atomic_update]

/-- Whatever the linearisation of concurrent `update` calls, the final value is the maximum of
the initial value and everything offered. -/
theorem C18_final_max (init : Nat) (xs : List Nat) :
    (run init (updates xs)).1 = xs.foldl max init := by
  induction xs generalizing init with
  | nil => rfl
  | cons n ns ih => rw [run_updates_cons]; simpa using ih (max init n)

/-- The running maximum is the least upper bound of the initial value and the offers. -/
theorem foldl_max_le (init b : Nat) (xs : List Nat) : xs.foldl max init ≤ b ↔ init ≤ b ∧ ∀ x ∈ xs, x ≤ b := by
  induction xs generalizing init with
  | nil => exact ⟨fun h => ⟨h, nofun⟩, fun h => h.1⟩
  | cons n ns ih =>
    rw [List.foldl, ih, Nat.max_le, List.forall_mem_cons, and_assoc]

theorem foldl_max_ge (init : Nat) (xs : List Nat) : init ≤ xs.foldl max init :=
  ((foldl_max_le init _ xs).mp (Nat.le_refl _)).1

theorem foldl_max_ge_mem (init : Nat) (xs : List Nat) (x : Nat) (h : x ∈ xs) : x ≤ xs.foldl max init :=
  ((foldl_max_le init _ xs).mp (Nat.le_refl _)).2 x h

/-- The final value does not depend on the schedule (any two linearisations of the same calls). -/
theorem C18_final_schedule_independent (init : Nat) (xs ys : List Nat) (h : xs.Perm ys) :
    (run init (updates xs)).1 = (run init (updates ys)).1 := by
  rw [C18_final_max, C18_final_max]
  -- the maximum only depends on which values were offered
  have le : ∀ {xs ys : List Nat}, (∀ x ∈ xs, x ∈ ys) → xs.foldl max init ≤ ys.foldl max init := fun hsub =>
    (foldl_max_le init _ _).mpr ⟨foldl_max_ge init _, fun x hx => foldl_max_ge_mem init _ x (hsub x hx)⟩
  exact Nat.le_antisymm (le fun _ => h.mem_iff.mp) (le fun _ => h.mem_iff.mpr)

/-- The value stored after a linearised prefix of offers. -/
def finalOf (init : Nat) (xs : List Nat) : Nat := (run init (updates xs)).1

theorem finalOf_cons (init n : Nat) (ns : List Nat) :
    finalOf init (n :: ns) = finalOf (max init n) ns := by
  unfold finalOf; rw [run_updates_cons]

/-- The `i`-th call of a linearisation is told `true` iff it offered more than the value stored
at that moment, i.e. iff the stored id grew at that call. -/
theorem C18_told_iff_grew (init : Nat) (xs : List Nat) (i : Nat) (hi : i < xs.length) :
    (run init (updates xs)).2[i]? = some (.told (decide (xs[i] > finalOf init (xs.take i)))) := by
  induction xs generalizing init i with
  | nil => simp at hi
  | cons n ns ih =>
    cases i with
    | zero => rw [run_updates_cons]; simp [finalOf, updates, run]
    | succ j =>
      have hj : j < ns.length := by simpa using hi
      rw [run_updates_cons]
      simp only [List.getElem?_cons_succ, List.take_succ_cons, List.getElem_cons_succ, finalOf_cons]
      exact ih (max init n) j hj

/-- The values whose callers were told `true`, in linearisation order. -/
def toldTrue (init : Nat) : List Nat → List Nat
  | [] => []
  | n :: ns => if n > init then n :: toldTrue (max init n) ns else toldTrue (max init n) ns

/-- `toldTrue` really is the sub-list of offers answered `true`. -/
theorem toldTrue_spec (init : Nat) (xs : List Nat) :
    toldTrue init xs =
      ((xs.zip (run init (updates xs)).2).filter (fun p => p.2 == .told true)).map (·.1) := by
  induction xs generalizing init with
  | nil => rfl
  | cons n ns ih =>
    rw [run_updates_cons]
    by_cases h : n > init
    · simp [toldTrue, h, ih]
    · simp [toldTrue, h, ih]

/-- Strictly increasing, every element above `lo`. -/
def IncrAbove (lo : Nat) : List Nat → Prop
  | [] => True
  | x :: xs => lo < x ∧ IncrAbove x xs

/-- the offers answered `true` increase strictly, from above the initial value -/
theorem toldTrue_incr (init : Nat) (xs : List Nat) : IncrAbove init (toldTrue init xs) := by
  induction xs generalizing init with
  | nil => trivial
  | cons n ns ih =>
    by_cases h : n > init
    · simp only [toldTrue, h, ↓reduceIte]
      refine ⟨h, ?_⟩
      rw [Nat.max_eq_right (Nat.le_of_lt h)]
      exact ih n
    · simp only [toldTrue, h, ↓reduceIte]
      rw [Nat.max_eq_left (Nat.le_of_not_gt h)]
      exact ih init

/-- such a list repeats nothing and stays above its bound -/
theorem IncrAbove.nodup {lo : Nat} {l : List Nat} (h : IncrAbove lo l) : l.Nodup ∧ ∀ x ∈ l, lo < x := by
  induction l generalizing lo with
  | nil => simp
  | cons x xs ih =>
    obtain ⟨h1, h2⟩ := h
    obtain ⟨nd, ab⟩ := ih h2
    refine ⟨List.nodup_cons.mpr ⟨fun hm => Nat.lt_irrefl _ (ab x hm), nd⟩, ?_⟩
    intro y hy
    rcases List.mem_cons.mp hy with rfl | hy
    · exact h1
    · exact Nat.lt_trans h1 (ab y hy)

/-- For each distinct growth exactly one caller is told `true`: the offers answered `true` are
strictly increasing along the linearisation (so no id is reported twice), all above the initial
value. -/
theorem C18_each_growth_once (init : Nat) (xs : List Nat) :
    (toldTrue init xs).Nodup ∧ ∀ x ∈ toldTrue init xs, init < x :=
  (toldTrue_incr init xs).nodup

/-- if the maximum of the offers exceeds the initial value, the offer that reached it was answered `true` -/
theorem toldTrue_last (init : Nat) (xs : List Nat) (h : init < xs.foldl max init) :
    xs.foldl max init ∈ toldTrue init xs := by
  induction xs generalizing init with
  | nil => simp at h
  | cons n ns ih =>
    simp only [List.foldl] at h ⊢
    by_cases hn : n > init
    · simp only [toldTrue, hn, ↓reduceIte]
      by_cases hm : max init n < ns.foldl max (max init n)
      · exact List.mem_cons_of_mem _ (ih _ hm)
      · have : ns.foldl max (max init n) = max init n :=
          Nat.le_antisymm (Nat.le_of_not_gt hm) (foldl_max_ge _ _)
        rw [this, Nat.max_eq_right (Nat.le_of_lt hn)]; exact List.mem_cons_self
    · simp only [toldTrue, hn, ↓reduceIte]
      have e : max init n = init := Nat.max_eq_left (Nat.le_of_not_gt hn)
      rw [e] at h ⊢
      exact ih _ h

/-- A reload is never lost: if the stored id ends up larger than it started, the caller who
offered the final (maximal) id was told `true`. -/
theorem C18_never_lost (init : Nat) (xs : List Nat)
    (h : init < (run init (updates xs)).1) :
    (run init (updates xs)).1 ∈ toldTrue init xs := by
  rw [C18_final_max] at h ⊢; exact toldTrue_last init xs h

/-- The sequential `ReloadId` behaves like the atomic one on the same offers. -/
theorem C18_seq_eq_atomic (init : Nat) (xs : List Nat) :
    (seqRun init xs).1 = (run init (updates xs)).1 ∧
    (seqRun init xs).2.map Ret.told = (run init (updates xs)).2 := by
  induction xs generalizing init with
  | nil => exact ⟨rfl, rfl⟩
  | cons n ns ih =>
    rw [run_updates_cons]
    simp only [seqRun, C18_update_max]
    exact ⟨(ih _).1, by simp [(ih _).2]⟩

/-! Non-vacuity: concrete histories. -/
example : run 0 (updates [2, 1, 2, 5]) = (5, [.told true, .told false, .told false, .told true]) := by decide +kernel
example : toldTrue 0 [2, 1, 2, 5] = [2, 5] := by decide +kernel
example : admitsLinearisation 1 3 [(3, true), (2, false), (2, true)] = true := by decide +kernel
example : admitsLinearisation 1 3 [(3, true), (3, true)] = false := by decide +kernel

end AmVerif.Props.C18
