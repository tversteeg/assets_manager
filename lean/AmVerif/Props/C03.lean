import AmVerif.Lemmas.World
/-!
# C03 — a load returns what the source holds: extension order, defaults, errors

Statements are about the definitions regenerated from the source: `Gen.errorOr` (`ErrorKind::or`),
`Gen.loadWithExtK` / `Gen.loadFoldK` / `Gen.loadFromSourceK` (`asset::load_from_source`), and about
`eval` (the transcription of `load_entry` / `add_asset` / `load_and_record`).
-/
namespace AmVerif.Props.C03
open AmVerif.Gen AmVerif.Model

/-! ## The error table -/

/-- Precedence class of an error: conversion > other I/O > not found > "no default value". -/
def rank : EK → Nat
  | .noDefault => 0
  | .io e => if e.notFound then 1 else 2
  | .conv _ => 3

/-- `ErrorKind::or`, arm by arm, as a closed table. -/
theorem C03_or_table (a b : EK) :
    errorOr a b = match a, b with
      | .noDefault, b => b
      | .io _, .conv c => .conv c
      | .io e, .io e' => if e.notFound then .io e' else .io e
      | a, _ => a := by
  cases a <;> cases b
  -- a pair of constructors decides its arm by reduction, except `.io e`, `.io e'`: arm 2 asks `e.notFound`
  case io.io e e' =>
    obtain ⟨nf, _, _⟩ := e
    cases nf <;> rfl
  all_goals rfl

/-- A decoding error is preferred over an I/O error over a not-found error over `NoDefaultValue`:
`or` returns an error of the higher class of its two arguments. -/
theorem C03_or_rank (a b : EK) : rank (errorOr a b) = max (rank a) (rank b) := by
  rw [C03_or_table]
  cases a with
  | noDefault => simp [rank]
  | conv c => cases b <;> simp [rank] <;> split <;> omega
  | io e =>
    obtain ⟨nf, kind, tag⟩ := e
    cases b with
    | noDefault => simp [rank]
    | conv c => cases nf <;> simp [rank]
    | io e' =>
      obtain ⟨nf', kind', tag'⟩ := e'
      cases nf <;> cases nf' <;> simp [rank]

/-- `or` never invents an error: the result is one of its arguments. -/
theorem C03_or_mem (a b : EK) : errorOr a b = a ∨ errorOr a b = b := by
  rw [C03_or_table]
  cases a with
  | noDefault => simp
  | conv c => simp
  | io e =>
    cases b with
    | noDefault => simp
    | conv c => simp
    | io e' => cases h : e.notFound <;> simp [h]

/-! ## The extension loop, in direct style -/

/-- The pure instance of the regenerated loop: `read` is a function of the extension. -/
def loadPure {α : Type} (read : String → Except IoErr (List UInt8))
    (decode : List UInt8 → String → Except String α) (exts : List String)
    (dflt : EK → Except EK α) : Except EK α :=
  loadFromSourceK (ρ := Except EK α) (fun ext k => k (read ext)) decode exts dflt id

/-- What one extension yields. -/
def tryExt {α : Type} (read : String → Except IoErr (List UInt8))
    (decode : List UInt8 → String → Except String α) (ext : String) : Except EK α :=
  loadWithExtK (ρ := Except EK α) (fun ext k => k (read ext)) decode ext id

theorem tryExt_eq {α : Type} (read) (decode : List UInt8 → String → Except String α) (ext : String) :
    tryExt read decode ext = match read ext with
      | .error e => .error (.io e)
      | .ok content => match decode content ext with
        | .error t => .error (.conv t)
        | .ok a => .ok a := rfl

/-- The fold of the errors of a list of failing extensions, exactly as the loop computes it. -/
def foldErrs (acc : EK) : List EK → EK
  | [] => acc
  | e :: es => foldErrs (errorOr e acc) es

theorem loadWithExtK_id {α : Type} (read) (decode : List UInt8 → String → Except String α) (ext : String)
    (k : Except EK α → Except EK α) :
    loadWithExtK (ρ := Except EK α) (fun ext k => k (read ext)) decode ext k = k (tryExt read decode ext) := by
  unfold tryExt loadWithExtK
  simp only []
  generalize read ext = r
  cases r with
  | error e => rfl
  | ok c => simp only [id]; generalize decode c ext = d; cases d <;> rfl

/-- Characterisation of the loop: it scans the extensions in order; the first one that can be read
and decoded wins (nothing after it is looked at); if none does, the folded error comes out. -/
theorem loadFoldK_scan {α : Type} (read) (decode : List UInt8 → String → Except String α)
    (acc : EK) (exts : List String) (k : Except EK α → Except EK α) :
    loadFoldK (loadWithExtK (ρ := Except EK α) (fun ext k => k (read ext)) decode) acc exts k =
      match exts with
      | [] => k (.error acc)
      | ext :: rest =>
        match tryExt read decode ext with
        | .ok a => k (.ok a)
        | .error e => loadFoldK (loadWithExtK (ρ := Except EK α) (fun ext k => k (read ext)) decode) (errorOr e acc) rest k := by
  cases exts with
  | nil => rfl
  | cons ext rest =>
    simp only [loadFoldK]
    rw [loadWithExtK_id]
    cases tryExt read decode ext <;> rfl

/-- **First readable and decodable extension wins**: if every extension before `x` fails and `x`
yields `v`, the load returns `v` — the loader's result on exactly the bytes stored for `x`. -/
theorem C03_first_readable_decodable {α : Type} (read) (decode : List UInt8 → String → Except String α)
    (dflt : EK → Except EK α) (pre post : List String) (x : String) (v : α)
    (hpre : ∀ e ∈ pre, ∃ err, tryExt read decode e = .error err)
    (hx : tryExt read decode x = .ok v) :
    loadPure read decode (pre ++ x :: post) dflt = .ok v := by
  unfold loadPure loadFromSourceK
  generalize loadInitError = acc
  induction pre generalizing acc with
  | nil => rw [List.nil_append, loadFoldK_scan]; simp [hx]
  | cons p ps ih =>
    obtain ⟨err, he⟩ := hpre p List.mem_cons_self
    rw [List.cons_append, loadFoldK_scan]
    simp only [he]
    exact ih (fun e h => hpre e (List.mem_cons_of_mem _ h)) _

/-- and the value is the decoder applied to the stored bytes under that very extension -/
theorem C03_value_is_decode_of_stored {α : Type} (read) (decode : List UInt8 → String → Except String α)
    (x : String) (v : α) (hx : tryExt read decode x = .ok v) :
    ∃ bytes, read x = .ok bytes ∧ decode bytes x = .ok v := by
  rw [tryExt_eq] at hx
  cases hr : read x with
  | error e => simp [hr] at hx
  | ok c =>
    simp only [hr] at hx
    cases hd : decode c x with
    | error t => simp [hd] at hx
    | ok a => simp [hd] at hx; exact ⟨c, rfl, by rw [hd, hx]⟩

/-- **If none can, `default_value` decides**, and it is handed the fold of all the errors. -/
theorem C03_default_decides {α : Type} (read) (decode : List UInt8 → String → Except String α)
    (dflt : EK → Except EK α) (exts : List String) (errs : List EK)
    (hall : exts.map (tryExt read decode) = errs.map .error) :
    loadPure read decode exts dflt = dflt (foldErrs loadInitError errs) := by
  unfold loadPure loadFromSourceK
  generalize loadInitError = acc
  induction exts generalizing acc errs with
  | nil =>
    cases errs with
    | nil => rfl
    | cons e es => simp at hall
  | cons x xs ih =>
    cases errs with
    | nil => simp at hall
    | cons e es =>
      simp only [List.map_cons, List.cons.injEq] at hall
      rw [loadFoldK_scan]; simp only [hall.1]
      exact ih (errs := es) (acc := _) hall.2

/-- The class of the reported error is the highest class among the individual failures
(`NoDefaultValue` for an empty extension list). -/
theorem C03_error_class (acc : EK) (errs : List EK) :
    rank (foldErrs acc errs) = errs.foldl (fun m e => max m (rank e)) (rank acc) := by
  induction errs generalizing acc with
  | nil => rfl
  | cons e es ih => simp only [foldErrs, List.foldl]; rw [ih, C03_or_rank, Nat.max_comm]

/-- The reported error is one of the errors that actually happened (or the initial one). -/
theorem C03_error_is_one_of (acc : EK) (errs : List EK) :
    foldErrs acc errs = acc ∨ foldErrs acc errs ∈ errs := by
  induction errs generalizing acc with
  | nil => left; rfl
  | cons e es ih =>
    simp only [foldErrs]
    rcases ih (errorOr e acc) with h | h
    · rcases C03_or_mem e acc with h' | h'
      · right; rw [h, h']; exact List.mem_cons_self
      · left; rw [h, h']
    · right; exact List.mem_cons_of_mem _ h

/-- With no extension at all the type's `default_value` is consulted with `NoDefaultValue`. -/
theorem C03_empty_extension_list {α : Type} (read) (decode : List UInt8 → String → Except String α)
    (dflt : EK → Except EK α) : loadPure read decode [] dflt = dflt .noDefault := rfl

/-! ## At the level of the cache: the error names the requested id, a failure caches nothing -/

/-- A failing `Compound::load` is reported as `Error{own id, the error it returned}`. -/
theorem C03_error_names_id (env : Env) (body : St → St × Outcome) (key : Key) (s : St) (e : LErr) :
    (loadAndRecord env body key s).2 = .err e →
      ∃ inner, e = .wrapped key.id inner := by
  unfold loadAndRecord
  generalize withFrame _ (some []) body s = r
  obtain ⟨s1, o, d⟩ := r
  cases o with
  | err e' => intro h; exact ⟨e', (Outcome.err.inj h).symm⟩
  | _ => intro h; cases h

/-- A loader without nested loads. -/
inductive NoLoads : Prog → Prop
  | ret (v) : NoLoads (.ret v)
  | fail (e) : NoLoads (.fail e)
  | panic : NoLoads .panic
  | read (id ext k) : (∀ r, NoLoads (k r)) → NoLoads (.read id ext k)
  | readDir (id k) : (∀ r, NoLoads (k r)) → NoLoads (.readDir id k)
  | tick (k) : (∀ r, NoLoads (k r)) → NoLoads (.tick k)

theorem NoLoads.closed (env : Env) : Prog.Closed env NoLoads where
  read h := by cases h; assumption
  readDir h := by cases h; assumption
  tick h := by cases h; assumption
  getCached h := nomatch h
  getOrInsert h := nomatch h
  tryCatch h := nomatch h
  noRecord h := nomatch h
  onThread h := nomatch h
  loadOwned h := nomatch h
  load h := nomatch h

/-- "same map" holds across every primitive update of `eval` but the two insertions, and a loader without
nested loads asks for neither -/
theorem sameMap_evalRel (env : Env) : EvalRel env NoLoads (fun s t => t.map = s.map) where
  refl _ := rfl
  trans h1 h2 := h2.trans h1
  record s on d := St.record_map s on d
  ios _ := rfl
  loads _ := rfl
  send _ _ := rfl
  handOut _ _ := rfl
  addLoad _ _ _ _ h := nomatch h
  addAny _ _ _ _ h := nomatch h
  frame _ _ _ h := h

/-- Such a loader never touches the map. -/
theorem eval_noLoads_map (env : Env) (f : Nat) (s : St) (p : Prog) (h : NoLoads p) :
    (eval env f s p).1.map = s.map :=
  (sameMap_evalRel env).eval (NoLoads.closed env) f s p h

theorem loadFoldK_noLoads (id : String) (decode) (kfin : Except EK Val → Prog) (hk : ∀ r, NoLoads (kfin r))
    (acc : EK) (exts : List String) :
    NoLoads (loadFoldK (loadWithExtK (ρ := Prog) (fun ext k => .read id ext k) decode) acc exts kfin) := by
  induction exts generalizing acc with
  | nil => exact hk _
  | cons x xs ih =>
    simp only [loadFoldK, loadWithExtK]
    refine NoLoads.read _ _ _ (fun r => ?_)
    cases r with
    | error e => exact ih _
    | ok c =>
      simp only []
      cases decode c x with
      | error t => exact ih _
      | ok a => exact hk _

/-- Every plain asset's loader (`load_from_source` over `Prog.read`) has no nested loads. -/
theorem assetProg_noLoads (exts : List String) (d : Bool) (id : String) : NoLoads (assetProg exts d id) := by
  unfold assetProg loadFromSourceK
  apply loadFoldK_noLoads
  intro r
  cases r with
  | ok v => exact NoLoads.ret _
  | error e =>
    simp only []
    cases mDefault d e with
    | ok v => exact NoLoads.ret _
    | error e' => exact NoLoads.fail _

/-- **A failure caches nothing**: when the loader of `key` (a loader without nested loads, e.g.
any plain asset) fails, the cache is exactly what it was; so the same call succeeds as soon as
the source is fixed (the next attempt evaluates against the repaired source, with the same map). -/
theorem C03_failure_caches_nothing (env : Env) (f : Nat) (s : St) (key : Key)
    (hp : NoLoads ((env.types key.ty).prog key.id)) (habs : s.lookup key = none)
    (e : LErr) (hfail : (eval env (f+1) s (.load key Prog.ret')).2 = .err e) :
    (eval env (f+1) s (.load key Prog.ret')).1.map = s.map := by
  have hm := ((sameMap_evalRel env).loadAndRecord (fun s => eval env f s ((env.types key.ty).prog key.id)) key
    (s.record (recordsAsset (env.types key.ty).hot env.hasReloader) (.asset key))
    (fun s => eval_noLoads_map env f s _ hp)).trans (St.record_map s _ _)
  rw [eval_load_miss₀ env f s key _ habs] at hfail ⊢
  unfold okOr at hfail ⊢
  generalize loadAndRecord env _ key _ = r at hm hfail ⊢
  obtain ⟨s1, o⟩ := r
  cases o with
  -- `ret'` of a value answers `.ok` (`.diverged` without fuel), never an error; `ret'` of an error leaves the state alone
  | ok v => cases f <;> cases hfail
  | err e' => cases f <;> exact hm
  | _ => cases hfail

/-! Non-vacuity: a concrete asset over a concrete source. -/
def exRead : String → Except IoErr (List UInt8)
  | "b" => .ok "ok:5".toUTF8.toList
  | "a" => .error { notFound := false, kind := "PermissionDenied", tag := "x.a" }
  | e => .error { notFound := true, kind := "NotFound", tag := "x." ++ e }

example : errorOr (.io ⟨true, "NotFound", "t"⟩) (.conv "c") = .conv "c" := by decide +kernel
example : rank (foldErrs .noDefault [.io ⟨true, "NotFound", "1"⟩, .io ⟨false, "Other", "2"⟩, .io ⟨true, "NotFound", "3"⟩]) = 2 := by decide +kernel
example : NoLoads (assetProg ["a", "b"] false "x") := assetProg_noLoads _ _ _

end AmVerif.Props.C03
