import AmVerif.Lemmas.Archive
import AmVerif.Lemmas.Assoc
import AmVerif.Gen.Archive
/-!
# C04 — every source shows the same tree: FileSystem, Zip, Tar, Embedded

`sem t` is the specification view of a tree. Each source model of `Model/Source.lean` is compared
with it by `ViewEq`: `read` equal, `read_dir` equal up to the order of the listing, `exists` equal.
The theorems are about `index` (`indexWith` on `registerSkel`, `registerDirSkel`) and `fsView`
(`fsViewWith fsCfg`); the driver `amdrv-src` runs `indexWith` / `fsViewWith` on the skeletons and kind
tests extracted from the source, which `C04_register_skeleton` and `C04_fs_kind_tests` equate with those.

`C04_archive_stmt` covers archives whose directories have no member of their own and the empty
archive (the cases of F-C04); `C04_fs_stmt` speaks of well-formed ids only and includes that a
file is not a directory of the same name. The examples show these cases on concrete trees.
-/
namespace AmVerif.Props.C04
open AmVerif.Model.Source AmVerif.Model.ArchiveSkel AmVerif.Lemmas.Source AmVerif.Lemmas.Archive AmVerif.Gen.Archive

/-- Listings are compared as multisets; errors must be the same error. -/
def ResPerm : Res (List Entry) → Res (List Entry) → Prop
  | .ok a, .ok b => a.Perm b
  | .err e, .err e' => e = e'
  | _, _ => False

structure ViewEq (v w : View) : Prop where
  read : ∀ id ext, v.read id ext = w.read id ext
  readDir : ∀ p, ResPerm (v.readDir p) (w.readDir p)
  exist : ∀ e, v.exist e = w.exist e

theorem ResPerm.symm {a b} (h : ResPerm a b) : ResPerm b a := by
  cases a <;> cases b
  case ok.ok => exact List.Perm.symm h
  case err.err => exact Eq.symm h
  all_goals exact h.elim

theorem ResPerm.trans {a b c} (h : ResPerm a b) (h' : ResPerm b c) : ResPerm a c := by
  cases a <;> cases b <;> cases c
  case ok.ok.ok => exact List.Perm.trans h h'
  case err.err.err => exact Eq.trans h h'
  -- mixed: one of the two hypotheses is `False`
  all_goals first | exact h.elim | exact h'.elim

theorem ViewEq.symm {v w} (h : ViewEq v w) : ViewEq w v :=
  ⟨fun i e => (h.read i e).symm, fun p => (h.readDir p).symm, fun e => (h.exist e).symm⟩

theorem ViewEq.trans {u v w} (h : ViewEq u v) (h' : ViewEq v w) : ViewEq u w :=
  ⟨fun i e => (h.read i e).trans (h'.read i e), fun p => (h.readDir p).trans (h'.readDir p),
   fun e => (h.exist e).trans (h'.exist e)⟩

/-- Well-formed ids: dot-separated valid names (the empty list is the root id `""`). Ids with
empty components (`"a..b"`, `".a"`, `"a."`) are outside the property: `path_of_entry` drops the
empty components, so `FileSystem` resolves `"a..b"` like `"a.b"` — compared model-versus-code by
the `src` engine, without oracle. -/
def WfComps (cs : List Name) : Prop := ∀ c ∈ cs, ValidName c

/-- Two views answer alike on every well-formed id (and dot-free extension). -/
structure ViewEqWf (v w : View) : Prop where
  read : ∀ cs ext, WfComps cs → ValidExt ext → v.read (joinDot cs) ext = w.read (joinDot cs) ext
  readDir : ∀ cs, WfComps cs → ResPerm (v.readDir (joinDot cs)) (w.readDir (joinDot cs))
  existFile : ∀ cs ext, WfComps cs → ValidExt ext →
    v.exist (.file (joinDot cs) ext) = w.exist (.file (joinDot cs) ext)
  existDir : ∀ cs, WfComps cs → v.exist (.dir (joinDot cs)) = w.exist (.dir (joinDot cs))

theorem ViewEq.toWf {v w} (h : ViewEq v w) : ViewEqWf v w :=
  ⟨fun _ _ _ _ => h.read _ _, fun _ _ => h.readDir _, fun _ _ _ _ => h.exist _, fun _ _ => h.exist _⟩

theorem ViewEqWf.symm {v w} (h : ViewEqWf v w) : ViewEqWf w v :=
  ⟨fun cs e a b => (h.read cs e a b).symm, fun cs a => (h.readDir cs a).symm,
   fun cs e a b => (h.existFile cs e a b).symm, fun cs a => (h.existDir cs a).symm⟩

theorem ViewEqWf.trans {u v w} (h : ViewEqWf u v) (h' : ViewEqWf v w) : ViewEqWf u w :=
  ⟨fun cs e a b => (h.read cs e a b).trans (h'.read cs e a b), fun cs a => (h.readDir cs a).trans (h'.readDir cs a),
   fun cs e a b => (h.existFile cs e a b).trans (h'.existFile cs e a b), fun cs a => (h.existDir cs a).trans (h'.existDir cs a)⟩

/-! ### `exists` says whether `read` / `read_dir` would succeed -/

/-- In every source `exists` answers whether `read` (for a file) or `read_dir` (for a directory)
succeeds, so two views agree as soon as their `read` and `read_dir` do. -/
structure ExistIsOk (v : View) : Prop where
  file : ∀ id ext, v.exist (.file id ext) = (v.read id ext).isOk
  dir : ∀ p, v.exist (.dir p) = (v.readDir p).isOk

theorem ResPerm.isOk_eq {a b} (h : ResPerm a b) : a.isOk = b.isOk := by
  cases a <;> cases b <;> first | rfl | cases h

theorem ViewEq.of_reads {v w : View} (hv : ExistIsOk v) (hw : ExistIsOk w)
    (hr : ∀ id ext, v.read id ext = w.read id ext) (hd : ∀ p, ResPerm (v.readDir p) (w.readDir p)) : ViewEq v w := by
  refine ⟨hr, hd, fun e => ?_⟩
  cases e with
  | file id ext => rw [hv.file, hw.file, hr]
  | dir p => rw [hv.dir, hw.dir, (hd p).isOk_eq]

theorem ViewEqWf.of_reads {v w : View} (hv : ExistIsOk v) (hw : ExistIsOk w)
    (hr : ∀ cs ext, WfComps cs → ValidExt ext → v.read (joinDot cs) ext = w.read (joinDot cs) ext)
    (hd : ∀ cs, WfComps cs → ResPerm (v.readDir (joinDot cs)) (w.readDir (joinDot cs))) : ViewEqWf v w :=
  ⟨hr, hd, fun cs ext hcs hx => by rw [hv.file, hw.file, hr cs ext hcs hx],
    fun cs hcs => by rw [hv.dir, hw.dir, (hd cs hcs).isOk_eq]⟩

/-! ## tie to the source: the extracted skeletons -/

/-- `register_file` of zip.rs and of tar.rs have the same effect skeleton (they differ only in the
container API), and it is the one the model interprets: builder reset, component walk
(push / pop / skip / refuse), parent id, stem, id; files: extension, `FileDesc(id, ext)`,
`files.insert`, **`register_dir(parent)`**, push into the parent's listing; directories:
**`register_dir(id)`**. `register_dir` is the same in both files too: return if the directory is
known, insert an empty listing, and — unless it is the root — register the parent and push the
directory into the parent's listing. Both `create` functions register the root directory before
any member. -/
theorem C04_register_skeleton :
    zipRegister = registerSkel ∧ tarRegister = registerSkel ∧
    zipRegisterDir = registerDirSkel ∧ tarRegisterDir = registerDirSkel ∧
    zipCreateRegistersRoot = true ∧ tarCreateRegistersRoot = true := by decide

/-- Each `read` of an archive works on its own clone of the reader (no shared file offset). -/
theorem C04_reads_use_own_reader : zipReadClonesReader = true ∧ tarReadClonesReader = true := by decide

/-- `FileSystem::exists` tests the kind of the entry, `read` / `read_dir` report an entry of the
wrong kind as not found: the kind tests of the model `fsView` are those of the source. -/
theorem C04_fs_kind_tests :
    (⟨fsExistsChecksKind, fsReadNonFileNotFound, fsReadDirNonDirNotFound⟩ : FsCfg) = fsCfg := by decide

/-! ## archives -/

/-- Full strength: every archive of a valid tree shows that tree. -/
def C04_archive_stmt : Prop :=
  ∀ t ms, ValidTree t → Archives t ms → ViewEq (viewOfIdx (index ms)) (sem t)

/-- The tree `d/e/f.x`. -/
def witnessTree : Tree :=
  { files := [{ dir := [['d'], ['e']], stem := ['f'], ext := ['x'], bytes := [] }], dirs := [[['d']], [['d'], ['e']]] }
/-- Its archive without directory members (the witness of F-C04 before the repair). -/
def witnessArchive : List Member := [{ abs := false, comps := [['d'], ['e'], ['f', '.', 'x']], isFile := true, bytes := [] }]

theorem sem_read (t : Tree) (id : Id) (ext : Name) :
    (sem t).read id ext = match t.files.find? (fun f => decide (fileId f = id ∧ f.ext = ext)) with
      | some f => .ok f.bytes
      | none => .err .notFound := rfl

theorem sem_readDir (t : Tree) (p : Id) :
    (sem t).readDir p = if isDirId t p = true then .ok ((regsOfTree t).filterMap (childEntry p)) else .err .notFound := rfl

theorem sem_existIsOk (t : Tree) : ExistIsOk (sem t) := by
  constructor
  · intro id ext
    rw [sem_read]
    show t.files.any _ = _
    rw [any_eq_find_isSome]
    cases t.files.find? _ <;> rfl
  · intro p
    rw [sem_readDir]
    show isDirId t p = _
    cases isDirId t p <;> rfl

theorem viewOfIdx_existIsOk (i : Idx) : ExistIsOk (viewOfIdx i) := by
  constructor
  · intro id ext
    show (i.files (id, ext)).isSome = Res.isOk (match i.files (id, ext) with | some b => .ok b | none => .err .notFound)
    cases i.files (id, ext) <;> rfl
  · intro p
    show (i.dirs p).isSome = Res.isOk (match i.dirs p with | some b => .ok b | none => .err .notFound)
    cases i.dirs p <;> rfl

/-- (key, content) pairs of the tree's files. -/
def treeKVs (t : Tree) : List ((Id × Name) × Bytes) := t.files.map fun f => ((fileId f, f.ext), f.bytes)

theorem sem_read_treeKVs (t : Tree) (id : Id) (ext : Name) :
    (sem t).read id ext =
      match ((treeKVs t).find? (·.1 = (id, ext))).map (·.2) with
      | some b => .ok b
      | none => .err .notFound := by
  simp only [sem, treeKVs, List.find?_map, Function.comp_def, Prod.mk.injEq, Option.map_map]
  cases t.files.find? (fun f => decide (fileId f = id ∧ f.ext = ext)) <;> rfl

theorem validTree_keys (t : Tree) (hv : ValidTree t) : ((treeKVs t).map (·.1)).Nodup := by
  have := validTree_keysNodup hv
  simpa [treeKVs, List.map_map, Function.comp_def] using this

/-- A `files` / `dirs` index shows the tree `t` as soon as it looks files up like the tree's table
and lists exactly the tree's directories, each with the tree's entries in some order. -/
theorem viewOfIdx_sem (t : Tree) (i : Idx)
    (hfiles : ∀ k, i.files k = ((treeKVs t).find? (·.1 = k)).map (·.2))
    (hdir : ∀ p, isDirId t p = true → ∃ es, i.dirs p = some es ∧ es.Perm ((regsOfTree t).filterMap (childEntry p)))
    (hnone : ∀ p, isDirId t p = false → i.dirs p = none) :
    ViewEq (viewOfIdx i) (sem t) := by
  apply ViewEq.of_reads (viewOfIdx_existIsOk i) (sem_existIsOk t)
  · intro id ext
    rw [sem_read_treeKVs, ← hfiles]; rfl
  · intro p
    rw [sem_readDir]
    show ResPerm (match i.dirs p with | some es => .ok es | none => .err .notFound) _
    cases h : isDirId t p with
    | true => obtain ⟨es, he, hp⟩ := hdir p h; rw [he]; exact hp
    | false => rw [hnone p h]; rfl

/-- The directories that have a member of their own. -/
def dirMembers (ms : List Member) : List (List Name) := (ms.filter (fun m => !m.isFile)).map Member.norm

/-- The registrations of an archive are, up to order, the tree's files and the directories that
have a member. -/
theorem regs_perm (t : Tree) (ms : List Member) (hv : ValidTree t) (ha : Archives t ms) :
    (ms.filterMap parseMember).Perm (t.files.map fileReg ++ (dirMembers ms).map dirReg) := by
  obtain ⟨habs, hfiles, _, hsub, _⟩ := ha
  have hparse : ∀ m ∈ ms, parseMember m = parseCore m.norm m.isFile m.bytes := fun m hm =>
    if_neg (by rw [habs m hm]; exact Bool.false_ne_true)
  refine ((List.filter_append_perm (·.isFile) ms).symm.filterMap parseMember).trans ?_
  rw [List.filterMap_append]
  refine List.Perm.append ?_ (List.Perm.of_eq ?_)
  · -- files are parsed from (path, bytes), which is what the archive shares with the tree
    have h1 : (ms.filter (·.isFile)).filterMap parseMember =
        ((ms.filter (·.isFile)).map fun m => (m.norm, m.bytes)).filterMap (fun cb => parseCore cb.1 true cb.2) := by
      rw [List.filterMap_map]
      apply filterMap_congr
      intro m hm
      dsimp only [Function.comp_apply]
      rw [hparse m (List.mem_filter.mp hm).1, (List.mem_filter.mp hm).2]
    rw [h1]
    refine (hfiles.filterMap _).trans (List.Perm.of_eq ?_)
    rw [List.filterMap_map, ← List.filterMap_eq_map]
    apply filterMap_congr
    intro f hf
    dsimp only [Function.comp_apply]
    exact parseCore_file f (validTree_file hv hf)
  · unfold dirMembers
    rw [List.map_map, ← List.filterMap_eq_map]
    apply filterMap_congr
    intro m hm
    have hm' := List.mem_filter.mp hm
    have hf : m.isFile = false := by simpa using hm'.2
    rw [hparse m hm'.1, hf]
    exact parseCore_dir _ m.bytes (validTree_dir hv (hsub m hm'.1 hf))

theorem fileKVs_files_dirs (t : Tree) (ds : List (List Name)) :
    fileKVs (t.files.map fileReg ++ ds.map dirReg) = treeKVs t := by
  simp [fileKVs, List.filterMap_append, List.filterMap_map, treeKVs, Reg.kv, fileReg, dirReg, Function.comp_def]

/-- Registering, in any order, every file of a valid tree and some of its directories `ds` shows
exactly that tree, provided each directory of the tree is on the path of a file or of a directory in `ds`. -/
theorem indexR_sem {t : Tree} (hv : ValidTree t) {rs : List Reg} {ds : List (List Name)} (hds : ds ⊆ t.dirs)
    (hperm : rs.Perm (t.files.map fileReg ++ ds.map dirReg))
    (hcover : ∀ q ∈ t.dirs, (∃ f ∈ t.files, q <+: f.dir) ∨ ∃ q' ∈ ds, q <+: q') :
    ViewEq (viewOfIdx (indexR rs).toIdx) (sem t) := by
  have hsubt : rs ⊆ regsOfTree t := hperm.subset.trans (List.append_subset.mpr
    ⟨List.subset_append_left _ _, List.subset_append_of_subset_right _ (List.map_subset dirReg hds)⟩)
  have hkv : (fileKVs rs).Perm (treeKVs t) := by
    rw [← fileKVs_files_dirs t ds]; exact hperm.filterMap _
  have hkeys : ((fileKVs rs).map (·.1)).Nodup := (hkv.map _).nodup_iff.mpr (validTree_keys t hv)
  have I := inv_indexR hv rs hsubt hkeys
  have hfiles : ∀ f ∈ t.files, fileReg f ∈ rs := fun f hf =>
    hperm.mem_iff.mpr (List.mem_append_left _ (List.mem_map.mpr ⟨f, hf, rfl⟩))
  -- every directory of the tree is registered: it is above a registered file or directory
  have hhas : ∀ p, isDirId t p = true → has (indexR rs).dirs p := by
    intro p h
    rcases (isDirId_iff t p).mp h with h | ⟨q, hq, rfl⟩
    · rw [h]; exact I.root
    · rcases hcover q hq with ⟨f, hf, hpre⟩ | ⟨q', hq', hpre⟩
      · exact has_prefix I hpre (validTree_file hv hf).dir (has_of_mem_lst _ _ _ (I.fileIn _ (hfiles f hf) f.ext f.bytes rfl))
      · exact has_prefix I hpre (validTree_dir hv (hds hq')).names
          (I.dirIn _ (hperm.mem_iff.mpr (List.mem_append_right _ (List.mem_map.mpr ⟨_, hq', rfl⟩))) rfl)
  apply viewOfIdx_sem
  · intro k
    show (indexR rs).files k = _
    rw [indexR_files, Assoc.lookup_of_perm (validTree_keys t hv) hkv]
  · exact fun p hp => ⟨_, dget_of_has (hhas p hp), I.lst_perm hv hsubt hfiles hhas p⟩
  · intro p hp
    apply dget_of_not_has
    intro h
    rw [I.sound p h] at hp
    cases hp

theorem mem_dirMembers (ms : List Member) (q : List Name) :
    q ∈ dirMembers ms ↔ ∃ m ∈ ms, m.isFile = false ∧ m.norm = q := by
  simp [dirMembers, and_assoc]

/-- The registrations of an archive of a valid tree, in any order, show that tree. -/
theorem archive_sem {t : Tree} {ms : List Member} (hv : ValidTree t) (ha : Archives t ms) {rs : List Reg}
    (hrs : rs.Perm (ms.filterMap parseMember)) : ViewEq (viewOfIdx (indexR rs).toIdx) (sem t) := by
  have hperm := hrs.trans (regs_perm t ms hv ha)
  obtain ⟨_, _, _, hsub, hcover⟩ := ha
  refine indexR_sem hv (ds := dirMembers ms) ?_ hperm ?_
  · intro q hq
    obtain ⟨m, hm, hf, rfl⟩ := (mem_dirMembers ms q).mp hq
    exact hsub m hm hf
  · intro q hq
    rcases hcover q hq with ⟨f, hf, hpre⟩ | ⟨m, hm, hmf, hpre⟩
    · exact Or.inl ⟨f, hf, List.isPrefixOf_iff_prefix.mp hpre⟩
    · exact Or.inr ⟨_, (mem_dirMembers ms _).mpr ⟨m, hm, hmf, rfl⟩, List.isPrefixOf_iff_prefix.mp hpre⟩

/-- **Archives, full strength.** A zip / tar archive of a valid tree — members in any order, with
or without `./`, directories with or without a member of their own (also after their content),
the empty archive of the empty tree included — shows exactly that tree: `read`, `read_dir` (up to
the order of the listing) and `exists` answer as the specification does. -/
theorem C04_archive : C04_archive_stmt := by
  intro t ms hv ha
  rw [index_eq]
  exact archive_sem hv ha (List.reverse_perm _)

/-- An archive without directory members (the case of F-C04): `d/e/f.x` alone shows the directories `d` and `d.e`. -/
example : ValidTree witnessTree ∧ Archives witnessTree witnessArchive ∧
    (viewOfIdx (index witnessArchive)).exist (.dir ['d']) = true ∧
    (viewOfIdx (index witnessArchive)).readDir [] = .ok [.dir ['d']] := by decide +kernel

/-- The empty archive of the empty tree: the root exists and is empty. -/
example : Archives ⟨[], []⟩ [] ∧ (viewOfIdx (index [])).readDir [] = .ok [] ∧
    (viewOfIdx (index [])).exist (.dir []) = true := by decide +kernel

example : Archives witnessTree
    (witnessArchive ++ [⟨false, [['.'], ['d'], ['e']], false, []⟩, ⟨false, [['d']], false, []⟩]) := by decide +kernel

/-- The order of the members is irrelevant (in particular a directory member may come after the
files it contains, or be missing altogether). -/
theorem C04_archive_order_irrelevant (t : Tree) (ms ms' : List Member) (hperm : ms.Perm ms') (hv : ValidTree t)
    (ha : Archives t ms) : ViewEq (viewOfIdx (index ms)) (viewOfIdx (index ms')) := by
  refine (C04_archive t ms hv ha).trans (ViewEq.symm ?_)
  rw [index_eq]
  exact archive_sem hv ha ((List.reverse_perm _).trans (hperm.symm.filterMap _))

/-- Directory members are redundant: dropping every directory member that is on the path of
another member does not change the view (both are archives of the same tree). -/
theorem C04_archive_dir_members_irrelevant (t : Tree) (ms ms' : List Member) (hv : ValidTree t)
    (ha : Archives t ms) (ha' : Archives t ms') : ViewEq (viewOfIdx (index ms)) (viewOfIdx (index ms')) :=
  (C04_archive t ms hv ha).trans (C04_archive t ms' hv ha').symm

/-! ## Embedded -/

theorem mem_dirIds (t : Tree) (p : Id) : p ∈ ([] :: t.dirs).map dirId ↔ isDirId t p = true := by
  rw [isDirId_iff, List.map_cons, List.mem_cons, List.mem_map]; rfl

/-- `Embedded::from` over the tables `embed!` generates for a valid tree shows exactly that tree
(listings even in the same order). -/
theorem C04_embedded (t : Tree) (hv : ValidTree t) :
    ViewEq (viewOfIdx (embeddedFrom (embedTables t))) (sem t) := by
  have hdirs : ∀ p, (embeddedFrom (embedTables t)).dirs p =
      if isDirId t p = true then some ((regsOfTree t).filterMap (childEntry p)) else none := by
    intro p
    show collectMap (([] :: t.dirs).map fun q => (dirId q, (regsOfTree t).filterMap (childEntry (dirId q)))) p = _
    rw [collectMap_eq, ← List.map_reverse,
      Assoc.find_map_key _ dirId (fun i => (regsOfTree t).filterMap (childEntry i)) p, List.map_reverse]
    simp only [List.mem_reverse, mem_dirIds]
  apply viewOfIdx_sem
  · intro k
    show collectMap (treeKVs t) k = _
    rw [collectMap_eq, Assoc.lookup_of_perm (validTree_keys t hv) (List.reverse_perm _)]
  · intro p h; rw [hdirs, if_pos h]; exact ⟨_, rfl, .refl _⟩
  · intro p h; rw [hdirs, h]; rfl

example : ValidTree witnessTree := by decide +kernel

/-! ## every listed entry is readable under the id it was listed with -/

/-- What "readable" means for a listed entry: a file can be read and exists, a directory can be
listed and exists. -/
def Readable (v : View) : Entry → Prop
  | .file id ext => (v.read id ext).isOk = true ∧ v.exist (.file id ext) = true
  | .dir id => (v.readDir id).isOk = true ∧ v.exist (.dir id) = true

/-- Whatever the specification view lists exists. -/
theorem sem_listed_exist (t : Tree) (p : Id) (es : List Entry) (h : (sem t).readDir p = .ok es) :
    ∀ e ∈ es, (sem t).exist e = true := by
  intro e he
  rw [sem_readDir] at h
  split at h
  · cases h
    obtain ⟨r, hr, _, rfl⟩ := (mem_filterMap_childEntry t p e).mp he
    rcases mem_regsOfTree.mp hr with ⟨f, hf, rfl⟩ | ⟨q, hq, rfl⟩
    · exact List.any_eq_true.mpr ⟨f, hf, decide_eq_true ⟨rfl, rfl⟩⟩
    · exact (isDirId_iff t _).mpr (Or.inr ⟨q, hq, rfl⟩)
  · cases h

/-- For every source view that shows the tree (each of the theorems above provides one), every
entry produced by `read_dir` is readable / listable under the id it was listed with. -/
theorem C04_listed_is_readable (v : View) (t : Tree) (hv : ViewEq v (sem t)) (p : Id) (es : List Entry)
    (h : v.readDir p = .ok es) : ∀ e ∈ es, Readable v e := by
  intro e he
  have hp := hv.readDir p
  rw [h] at hp
  cases hs : (sem t).readDir p with
  | err x => rw [hs] at hp; cases hp
  | ok es' =>
    rw [hs] at hp
    have hex := sem_listed_exist t p es' hs e ((show es.Perm es' from hp).mem_iff.mp he)
    cases e with
    | file id ext => exact ⟨by rw [hv.read, ← (sem_existIsOk t).file, hex], by rw [hv.exist, hex]⟩
    | dir id => exact ⟨by rw [(hv.readDir id).isOk_eq, ← (sem_existIsOk t).dir, hex], by rw [hv.exist, hex]⟩

/-! ## readers do not disturb each other -/

inductive Probe
  | read (id : Id) (ext : Name)
  | readDir (id : Id)
  | exist (e : Entry)

inductive Answer
  | bytes (r : Res Bytes)
  | listing (r : Res (List Entry))
  | bool (b : Bool)

def answer (v : View) : Probe → Answer
  | .read id ext => .bytes (v.read id ext)
  | .readDir id => .listing (v.readDir id)
  | .exist e => .bool (v.exist e)

/-- Several reader threads over one index: a step answers the thread's next probe from the shared
index (the code only takes `&self`: no step writes to it). -/
structure Readers where
  idx : Idx
  progs : Nat → List Probe
  done : Nat → List Answer

def Readers.step (s : Readers) (tid : Nat) : Readers :=
  match s.progs tid with
  | [] => s
  | p :: ps => { s with progs := upd s.progs tid ps, done := upd s.done tid (s.done tid ++ [answer (viewOfIdx s.idx) p]) }

def Readers.run (s : Readers) (σ : List Nat) : Readers := σ.foldl Readers.step s

/-- Whatever the schedule and the number of reader threads, the index is unchanged and every
thread has received exactly the answers a lone reader would get, in program order. -/
theorem C04_reads_commute (s₀ : Readers) (σ : List Nat) :
    (s₀.run σ).idx = s₀.idx ∧
    ∀ t, (s₀.run σ).done t ++ ((s₀.run σ).progs t).map (answer (viewOfIdx s₀.idx)) =
         s₀.done t ++ (s₀.progs t).map (answer (viewOfIdx s₀.idx)) := by
  induction σ generalizing s₀ with
  | nil => exact ⟨rfl, fun _ => rfl⟩
  | cons tid σ ih =>
    have hstep : (s₀.step tid).idx = s₀.idx ∧
        ∀ t, (s₀.step tid).done t ++ ((s₀.step tid).progs t).map (answer (viewOfIdx s₀.idx)) =
             s₀.done t ++ (s₀.progs t).map (answer (viewOfIdx s₀.idx)) := by
      unfold Readers.step
      cases hp : s₀.progs tid with
      | nil => exact ⟨rfl, fun _ => rfl⟩
      | cons p ps =>
        refine ⟨rfl, fun t => ?_⟩
        by_cases ht : t = tid
        · subst ht; simp [upd, hp]
        · simp [upd, ht]
    obtain ⟨h1, h2⟩ := ih (s₀.step tid)
    refine ⟨h1.trans hstep.1, fun t => ?_⟩
    have := h2 t
    rw [hstep.1] at this
    exact this.trans (hstep.2 t)

example : ((Readers.mk (index witnessArchive) (fun _ => [.exist (.dir ['d', '.', 'e']), .read ['d', '.', 'e', '.', 'f'] ['x']]) (fun _ => [])).run
    [0, 1, 1, 0]).progs 0 = [] := by decide +kernel

/-! ## FileSystem -/

/-- Full strength: on well-formed ids the file-system view of a valid tree is the specification
view — `read`, `read_dir`, `exists` of both kinds, the root included; a directory is not a file,
a file is not a directory, and everything absent (also below a file) is *not found*. -/
def C04_fs_stmt : Prop := ∀ t, ValidTree t → ViewEqWf (fsView t) (sem t)

theorem comps_of_id (cs : List Name) (hv : ∀ c ∈ cs, ValidName c) :
    (splitDot (joinDot cs)).filter (· ≠ []) = cs := by
  have hfilter : cs.filter (· ≠ []) = cs := by
    apply List.filter_eq_self.mpr
    intro c hc
    simpa using (hv c hc).1
  cases cs with
  | nil => simp [joinDot, splitDot]
  | cons c cs' =>
    rw [splitDot_joinDot _ (by simp) (fun w hw => (hv w hw).2)]
    exact hfilter

/-- Two valid component lists with the same id are equal (id → path is injective). -/
theorem joinDot_inj (a b : List Name) (ha : ∀ c ∈ a, ValidName c) (hb : ∀ c ∈ b, ValidName c)
    (h : joinDot a = joinDot b) : a = b := by
  rw [← comps_of_id a ha, ← comps_of_id b hb, h]

theorem wf_concat {ini : List Name} {l : Name} (hcs : WfComps (ini ++ [l])) : WfComps ini ∧ ValidName l :=
  ⟨fun c hc => hcs c (List.mem_append_left _ hc), hcs l (List.mem_append_right _ (List.mem_singleton.mpr rfl))⟩

theorem wf_file {t : Tree} (hv : ValidTree t) {f : FileN} (hf : f ∈ t.files) : WfComps (f.dir ++ [f.stem]) := by
  intro c hc
  rcases List.mem_append.mp hc with h | h
  · exact (validTree_file hv hf).dir c h
  · rw [List.mem_singleton.mp h]; exact (validTree_file hv hf).stem

/-- `path_of_entry(File(id, ext))` of a well-formed id is the path of the file `stem.ext` in the
directory named by the other components. -/
theorem pathOfEntry_file (ini : List Name) (l ext : Name) (hcs : WfComps (ini ++ [l])) :
    pathOfEntry (joinDot (ini ++ [l])) (some ext) = some (filePath ⟨ini, l, ext, []⟩) := by
  simp only [pathOfEntry, comps_of_id _ hcs, List.getLast?_append, List.getLast?_singleton, List.dropLast_concat]
  simp [setExtension, splitExt_dotfree l (wf_concat hcs).2.2, filePath, fileName]

theorem filePath_eq_iff (f : FileN) (ini : List Name) (l ext : Name) (hs : ValidName f.stem) (he : ValidExt f.ext)
    (hl : ValidName l) (hx : ValidExt ext) :
    filePath f = filePath ⟨ini, l, ext, []⟩ ↔ f.dir = ini ∧ f.stem = l ∧ f.ext = ext := by
  constructor
  · intro h
    obtain ⟨h1, h2⟩ := List.append_singleton_inj.mp h
    have a := splitExt_fileName f hs he
    have b := splitExt_fileName ⟨ini, l, ext, []⟩ hl hx
    rw [h2] at a
    exact ⟨h1, a.1.symm.trans b.1, a.2.symm.trans b.2⟩
  · rintro ⟨h1, h2, h3⟩
    simp [filePath, fileName, h1, h2, h3]

/-- The path of a file `stem.ext` (non-empty extension) is never a directory of a valid tree. -/
theorem filePath_not_dir (t : Tree) (hv : ValidTree t) (ini : List Name) (l ext : Name) (hne : ext ≠ []) :
    filePath ⟨ini, l, ext, []⟩ ∉ t.dirs := by
  intro h
  have := (validTree_dir hv h).names (fileName ⟨ini, l, ext, []⟩) (by simp [filePath])
  have hx : ext.isEmpty = false := by cases ext <;> simp_all
  exact this.2 (by simp [fileName, hx])

theorem isDirId_joinDot (t : Tree) (hv : ValidTree t) (cs : List Name) (hcs : WfComps cs) :
    isDirId t (joinDot cs) = true ↔ (cs = [] ∨ cs ∈ t.dirs) := by
  rw [isDirId_iff]
  constructor
  · rintro (h | ⟨q, hq, h⟩)
    · left
      cases cs with
      | nil => rfl
      | cons c cs' => exact absurd h (joinDot_ne_nil _ (by simp) (fun x hx => (hcs x hx).1))
    · right
      have := joinDot_inj q cs (validTree_dir hv hq).names hcs h
      rw [← this]; exact hq
  · rintro (h | h)
    · left; rw [h]; rfl
    · right; exact ⟨cs, h, rfl⟩

/-- `FileSystem::read_dir` of a directory lists exactly the tree's entries (in the same order). -/
theorem fsChildren_eq (t : Tree) (hv : ValidTree t) (cs : List Name) (hcs : WfComps cs) :
    fsChildren t cs (joinDot cs) = (regsOfTree t).filterMap (childEntry (joinDot cs)) := by
  unfold fsChildren regsOfTree
  rw [List.filterMap_append, List.filterMap_map, List.filterMap_map]
  congr 1
  · apply filterMap_congr
    intro f hf
    have hfv := validTree_file hv hf
    obtain ⟨h1, h2⟩ := splitExt_fileName f hfv.stem hfv.ext
    by_cases hd : f.dir = cs
    · have hid : childId (joinDot cs) f.stem = fileId f := by rw [childId_joinDot cs _ (fun c hc => (hcs c hc).1), ← hd]; rfl
      simp [childEntry, fileReg, Reg.entry, dirId, hd, h1, h2, hid]
    · have : ¬ joinDot f.dir = joinDot cs := fun e => hd (joinDot_inj _ _ hfv.dir hcs e)
      simp [childEntry, fileReg, dirId, hd, this]
  · apply filterMap_congr
    intro q hq
    have hqv := validTree_dir hv hq
    have hlast : q = q.dropLast ++ [q.getLast hqv.ne] := (List.dropLast_concat_getLast hqv.ne).symm
    have hl : ValidName (q.getLast hqv.ne) := hqv.names _ (List.getLast_mem hqv.ne)
    have hdl : WfComps q.dropLast := fun c hc => hqv.names c (List.dropLast_subset q hc)
    have hg : q.getLast? = some (q.getLast hqv.ne) := List.getLast?_eq_some_getLast hqv.ne
    by_cases hd : q.dropLast = cs
    · have hid : childId (joinDot cs) (q.getLast hqv.ne) = joinDot q := by
        rw [childId_joinDot cs _ (fun c hc => (hcs c hc).1), ← hd, ← hlast]
      simp [childEntry, dirReg, Reg.entry, dirId, hg, hd, splitExt_dotfree _ hl.2, hid]
    · have : ¬ joinDot q.dropLast = joinDot cs := fun e => hd (joinDot_inj _ _ hdl hcs e)
      simp [childEntry, dirReg, dirId, hg, hd, this]

/-! ### what a path names (`p = [] ∨ p ∈ t.dirs`: `p` is the root or a directory of the tree) -/

theorem take_isDir {t : Tree} (hv : ValidTree t) {q : List Name} (hq : q = [] ∨ q ∈ t.dirs) (k : Nat) :
    q.take k = [] ∨ q.take k ∈ t.dirs := by
  refine of_append_of_dropLast (P := fun q => q = [] ∨ q ∈ t.dirs) ?_ (q.take k) (q.drop k) ?_
  · rintro q (rfl | h)
    · exact Or.inl rfl
    · exact validTree_dirParent hv h
  · rw [List.take_append_drop]; exact hq

theorem fsNode_isDir {t : Tree} {p : List Name} (h : p = [] ∨ p ∈ t.dirs) : fsNode t p = some .dir := if_pos h

theorem fsNode_not_isDir {t : Tree} {p : List Name} (h : ¬ (p = [] ∨ p ∈ t.dirs)) :
    fsNode t p = match t.files.find? (fun f => decide (filePath f = p)) with
      | some f => some (.file f.bytes)
      | none => none := if_neg h

theorem fsNode_dir_iff (t : Tree) (p : List Name) : fsNode t p = some .dir ↔ (p = [] ∨ p ∈ t.dirs) := by
  constructor
  · intro h
    apply Decidable.byContradiction
    intro hd
    rw [fsNode_not_isDir hd] at h
    revert h
    cases t.files.find? (fun f => decide (filePath f = p)) <;> exact fun h => nomatch h
  · exact fsNode_isDir

/-- On a valid tree path resolution never goes through a file: a path resolves to what it names. -/
theorem fsResolve_found_iff {t : Tree} (hv : ValidTree t) (p : List Name) (n : Node) :
    fsResolve t p = .found n ↔ fsNode t p = some n := by
  constructor
  · unfold fsResolve
    intro h
    split at h
    · cases h
    · cases hn : fsNode t p with
      | none => rw [hn] at h; cases h
      | some m => rw [hn] at h; cases h; rfl
  · intro h
    -- every proper prefix is a directory: of `p` itself, or of the directory of the file `p`
    have hpre : ∀ k, k < p.length → p.take k = [] ∨ p.take k ∈ t.dirs := by
      intro k hk
      by_cases hd : p = [] ∨ p ∈ t.dirs
      · exact take_isDir hv hd k
      · rw [fsNode_not_isDir hd] at h
        cases hf : t.files.find? (fun f => decide (filePath f = p)) with
        | none => rw [hf] at h; cases h
        | some f =>
          have hp : filePath f = p := of_decide_eq_true (List.find?_some (p := fun f => decide (filePath f = p)) hf)
          have := take_isDir hv (validTree_fileDir hv (List.mem_of_find?_eq_some hf)) k
          rw [← hp, filePath] at hk ⊢
          rw [List.length_append, List.length_singleton] at hk
          rwa [List.take_append_of_le_length (Nat.le_of_lt_succ hk)]
    have hany : (List.range p.length).any (fun k => isFileNode (fsNode t (p.take k))) = false := by
      apply List.any_eq_false.mpr
      intro k hk
      rw [fsNode_isDir (hpre k (List.mem_range.mp hk))]
      exact Bool.false_ne_true
    rw [fsResolve, hany, h]; rfl

theorem fsView_existIsOk (t : Tree) : ExistIsOk (fsView t) := by
  constructor
  · intro id ext
    unfold fsView fsViewWith
    dsimp only
    cases pathOfEntry id (some ext) with
    | none => rfl
    | some p =>
      dsimp only
      generalize fsResolve t p = res
      cases res with
      | found n => cases n <;> rfl
      | absent => rfl
      | notDir => rfl
  · intro id
    unfold fsView fsViewWith
    dsimp only
    cases pathOfEntry id none with
    | none => rfl
    | some p =>
      dsimp only
      generalize fsResolve t p = res
      cases res with
      | found n => cases n <;> rfl
      | absent => rfl
      | notDir => rfl

/-! ### what `fsView` answers, by how the path of the entry resolves -/

/-- `read` by how the path `p` of the entry resolves: the bytes if to a file, *not found* otherwise.
The option `o` stands for "the bytes of the file `p` resolves to" in whatever form the caller knows
it (`C04_fs` puts a look-up in the tree's file table there); `(generalizing := false)` keeps `hr`,
which mentions `o`, from being taken into the `match` of the statement as an argument. -/
theorem fsView_read {t : Tree} {id : Id} {ext : Name} {p : List Name} {o : Option Bytes}
    (hp : pathOfEntry id (some ext) = some p) (hr : ∀ b, fsResolve t p = .found (.file b) ↔ o = some b) :
    (fsView t).read id ext = match (generalizing := false) o with | some b => .ok b | none => .err .notFound := by
  unfold fsView fsViewWith
  dsimp only
  rw [hp]
  dsimp only
  cases o with
  | some b => rw [(hr b).mpr rfl]
  | none =>
    revert hr
    generalize fsResolve t p = res
    intro hr
    cases res with
    | found n => cases n with
      | file b => cases (hr b).mp rfl
      | dir => rfl
    | absent => rfl
    | notDir => rfl

/-- `read_dir` likewise; `c` says, in the caller's terms, whether `p` resolves to a directory. -/
theorem fsView_readDir {t : Tree} {id : Id} {p : List Name} {c : Bool}
    (hp : pathOfEntry id none = some p) (hr : fsResolve t p = .found .dir ↔ c = true) :
    (fsView t).readDir id = if c = true then .ok (fsChildren t p id) else .err .notFound := by
  unfold fsView fsViewWith
  dsimp only
  rw [hp]
  dsimp only
  cases c with
  | true => rw [hr.mpr rfl]; rfl
  | false =>
    revert hr
    generalize fsResolve t p = res
    intro hr
    cases res with
    | found n => cases n with
      | file b => rfl
      | dir => cases hr.mp rfl
    | absent => rfl
    | notDir => rfl

/-- The root id names no file, whatever the extension. -/
theorem fsView_read_root (t : Tree) (ext : Name) : (fsView t).read [] ext = .err .notFound := by
  cases ext <;> rfl

/-- The file that the path of a well-formed file id names is the tree's file with that id and extension. -/
theorem fsNode_file {t : Tree} (hv : ValidTree t) {ini : List Name} {l ext : Name} (hcs : WfComps (ini ++ [l]))
    (hx : ValidExt ext) (b : Bytes) :
    fsNode t (filePath ⟨ini, l, ext, []⟩) = some (.file b) ↔
      (t.files.find? (fun f => decide (fileId f = joinDot (ini ++ [l]) ∧ f.ext = ext))).map (·.bytes) = some b := by
  have hl := (wf_concat hcs).2
  -- both sides look for the same file
  have hfind : t.files.find? (fun f => decide (filePath f = filePath ⟨ini, l, ext, []⟩)) =
      t.files.find? (fun f => decide (fileId f = joinDot (ini ++ [l]) ∧ f.ext = ext)) := by
    apply find_congr
    intro f hf
    have hfv := validTree_file hv hf
    rw [decide_eq_decide, filePath_eq_iff f ini l ext hfv.stem hfv.ext hl hx]
    constructor
    · rintro ⟨h1, h2, h3⟩; exact ⟨by rw [fileId, h1, h2], h3⟩
    · rintro ⟨h1, h3⟩
      have := List.append_singleton_inj.mp (joinDot_inj _ _ (wf_file hv hf) hcs h1)
      exact ⟨this.1, this.2, h3⟩
  rw [fsNode, hfind]
  cases hfd : t.files.find? (fun f => decide (fileId f = joinDot (ini ++ [l]) ∧ f.ext = ext)) with
  | none => split <;> exact ⟨fun h => (nomatch h), fun h => (nomatch h)⟩
  | some f =>
    have hf : f ∈ t.files := List.mem_of_find?_eq_some hfd
    have hp := of_decide_eq_true (List.find?_some (p := fun f => decide (fileId f = joinDot (ini ++ [l]) ∧ f.ext = ext)) hfd)
    -- the path is not a directory: the tree has no file `l` without extension beside a directory `l`
    rw [if_neg]
    · exact ⟨fun h => by cases h; rfl, fun h => by cases h; rfl⟩
    · rintro (hd | hd)
      · exact List.append_ne_nil_of_right_ne_nil _ (List.cons_ne_nil _ _) hd
      · by_cases hext : ext = []
        · apply validTree_fileNotDir hv hf (hp.2.trans hext)
          rw [joinDot_inj _ _ (wf_file hv hf) hcs hp.1]
          rwa [hext] at hd
        · exact filePath_not_dir t hv ini l ext hext hd

/-- **FileSystem, full strength** (on well-formed ids). -/
theorem C04_fs : C04_fs_stmt := by
  intro t hv
  apply ViewEqWf.of_reads (fsView_existIsOk t) (sem_existIsOk t)
  · intro cs ext hcs hx
    rcases List.eq_nil_or_concat cs with rfl | ⟨ini, l, hcl⟩
    · -- the root id is not a file
      rw [show joinDot [] = [] from rfl, fsView_read_root]
      have hnone : t.files.find? (fun f => decide (fileId f = [] ∧ f.ext = ext)) = none :=
        List.find?_eq_none.mpr fun f hf h => joinDot_ne_nil _ (List.append_ne_nil_of_right_ne_nil _ (List.cons_ne_nil _ _))
          (fun c hc => (wf_file hv hf c hc).1) (of_decide_eq_true h).1
      rw [sem_read, hnone]
    · rw [List.concat_eq_append] at hcl
      subst hcl
      rw [fsView_read (pathOfEntry_file ini l ext hcs)
        fun b => (fsResolve_found_iff hv _ _).trans (fsNode_file hv hcs hx b)]
      rw [sem_read]
      cases t.files.find? _ <;> rfl
  · intro cs hcs
    have hpath : pathOfEntry (joinDot cs) none = some cs := by rw [pathOfEntry, comps_of_id cs hcs]
    rw [fsView_readDir hpath (((fsResolve_found_iff hv _ _).trans (fsNode_dir_iff t cs)).trans
      (isDirId_joinDot t hv cs hcs).symm), fsChildren_eq t hv cs hcs]
    rw [sem_readDir]
    cases isDirId t (joinDot cs)
    · exact rfl
    · exact List.Perm.refl _

/-- No kind confusion: in the tree with the single directory `d` there is no file `d`, reading it
is *not found*; a file `a` is not a directory. -/
example : (fsView ⟨[], [[['d']]]⟩).exist (.file ['d'] []) = false ∧
    (fsView ⟨[], [[['d']]]⟩).read ['d'] [] = .err .notFound ∧
    (fsView ⟨[⟨[], ['a'], [], []⟩], []⟩).exist (.dir ['a']) = false ∧
    (fsView ⟨[⟨[], ['a'], [], []⟩], []⟩).readDir ['a'] = .err .notFound ∧
    (fsView ⟨[⟨[], ['a'], [], []⟩], []⟩).read ['a', '.', 'b'] ['x'] = .err .notFound := by decide +kernel

/-- **All four sources agree** on every well-formed id: the file system, every archive of the
tree and the embedded form answer alike. -/
theorem C04_sources_agree (t : Tree) (ms : List Member) (hv : ValidTree t) (ha : Archives t ms) :
    ViewEqWf (fsView t) (viewOfIdx (index ms)) ∧
    ViewEqWf (fsView t) (viewOfIdx (embeddedFrom (embedTables t))) ∧
    ViewEq (viewOfIdx (index ms)) (viewOfIdx (embeddedFrom (embedTables t))) :=
  ⟨(C04_fs t hv).trans (C04_archive t ms hv ha).toWf.symm,
   (C04_fs t hv).trans (C04_embedded t hv).toWf.symm,
   (C04_archive t ms hv ha).trans (C04_embedded t hv).symm⟩

end AmVerif.Props.C04
