import AmVerif.Gen.Skel
import AmVerif.Lemmas.CellLive
/-!
# C17 — `OnceInitCell` initialises once, keeps its seed on failure, drops once

The statements about behaviour speak of `AmVerif.Model.Cell.run` and its step function `stepTh`, the
interpreter the model driver steps through, on the step programs and arm tables regenerated from
`src/utils/cell.rs` (`AmVerif.Gen.Cell`); the others state what was extracted. The former hold for
every seed kind (no destructor / destructor / panicking destructor), every assignment of call lists
to threads (any number of threads, any initialiser outcomes) and every schedule.
`once_cell::sync::OnceCell` is an assumed primitive (its behaviour is the meaning of the tokens
`onceEnter` / `closureOk` and of `abort`).
-/
namespace AmVerif.Props.C17
open AmVerif.Gen.Cell AmVerif.Model.Cell

/-! ## What was extracted from the source, in the shape the proofs rely on -/

/-- `get_or_try_init_default`: the union is written (`replace`) only between `onceEnter` and
`closureOk`, after the initialiser was called with `?`; the seed escapes the closure and is
dropped after `})?;`. -/
theorem C17_skel_default : initDefault =
    [.slotNone, .onceEnter, .borrow, .callF, .mkState, .replace, .escape, .closureOk, .onceExit,
      .dropEscaped, .ret] := by decide

/-- `get_or_try_init_no_drop`: same, the seed is overwritten in place (never dropped). -/
theorem C17_skel_no_drop : initNoDrop =
    [.onceEnter, .borrow, .callF, .overwrite, .closureOk, .onceExit, .ret] := by decide

/-- dispatch on `needs_drop::<U>()`, the arm `Drop` and `get` pick from the once state, the
constructors, and `get` using the non-blocking `OnceCell::get`. -/
theorem C17_tables :
    dispatch true = .dflt ∧ dispatch false = .noDrop ∧
    dropArm true = .init ∧ dropArm false = .uninit ∧
    getArm true = some .init ∧ getArm false = none ∧ getBlocks = false ∧
    uncheckedArm = .init ∧ newCtor = (false, .uninit) ∧ withValueCtor = (true, .init) := by decide

/-- `get_or_init` has no code path of its own: it forwards to `get_or_try_init` with the initialiser
wrapped in `Ok` (error type `Infallible`). -/
theorem C17_get_or_init_forwards : getOrInitForwards = true := by decide

/-- Hence a `get_or_init` call whose initialiser returns or panics *is* the `get_or_try_init` call with
that outcome, and every theorem below covers it (in particular `C17_failure_keeps_seed` for a panic
passed through `get_or_init`). -/
theorem C17_infallible_is_init (k : OKind) (d : Nat) (hk : k ≠ .err) :
    Call.infallible ⟨k, d⟩ = some (.init ⟨k, d⟩) := by
  simp [Call.infallible, C17_get_or_init_forwards, hk]

/-! ## Reachable states -/

/-- The state after schedule `σ`, from `OnceInitCell::new(seed c)` shared by threads with call lists `calls`. -/
def reach (kind : Kind) (c : Nat) (calls : Nat → List Call) (σ : List Nat) : Sys :=
  run (init kind c calls) σ

theorem init_inv (kind : Kind) (c : Nat) (calls : Nat → List Call) : Inv (init kind c calls) := by
  -- `new` leaves the once empty and the seed in the union: `newCtor = (false, .uninit)`, by evaluation in the `rfl`s
  refine ⟨rfl, Or.inl ⟨rfl, ⟨c, rfl⟩, rfl, ⟨rfl, rfl⟩, fun u a ha => ?_⟩, fun u r hr => ?_⟩
  · simp [init] at ha
  · simp [init] at hr

/-- **One owner.** In every reachable state the dead arm of the union was never touched (`ub = false`)
and the state is in one of three phases (`Phase`): once empty — the union holds the seed, no
destructor ran, no thread holds a register; a thread inside the closure — its program point says
where seed and value are (union / `value` / `uninit` / `uninit_value`), nobody else holds anything;
once initialised — the union holds the value for good, and the seed is either in the
`uninit_value` of exactly one thread past the closure (about to be dropped) or accounted for once
in the ledger (dropped on the default path, forgotten on the no-drop path). -/
theorem C17_one_owner (kind : Kind) (c : Nat) (calls : Nat → List Call) (σ : List Nat) :
    Inv (reach kind c calls σ) :=
  run_inv _ σ (init_inv kind c calls)

/-- The seed's destructor runs at most once, and a forgotten seed is never also dropped. -/
theorem C17_seed_at_most_once (kind : Kind) (c : Nat) (calls : Nat → List Call) (σ : List Nat) :
    (reach kind c calls σ).sh.seedDrops + (reach kind c calls σ).sh.seedLeaks ≤ 1 :=
  (Inv.ledger (C17_one_owner kind c calls σ)).2

/-- **One success.** At most one initialiser ever returns `Ok`, and every reference any caller
(of `get`, `get_or_init`, `get_or_try_init`) ever got is to the value stored in the cell —
so all callers got the same one. -/
theorem C17_one_success (kind : Kind) (c : Nat) (calls : Nat → List Call) (σ : List Nat) :
    (reach kind c calls σ).sh.inits ≤ 1 ∧
    (∀ u v, Res.ref v ∈ ((reach kind c calls σ).ths u).results →
      (reach kind c calls σ).sh.once = .done ∧ (reach kind c calls σ).sh.data = .value v) ∧
    (∀ u u' v v', Res.ref v ∈ ((reach kind c calls σ).ths u).results →
      Res.ref v' ∈ ((reach kind c calls σ).ths u').results → v = v') := by
  have h := C17_one_owner kind c calls σ
  have hrefs : ∀ u v, Res.ref v ∈ ((reach kind c calls σ).ths u).results →
      (reach kind c calls σ).sh.once = .done ∧ (reach kind c calls σ).sh.data = .value v :=
    fun u v hm => h.res u _ hm
  exact ⟨(Inv.ledger h).1, hrefs, fun u u' v v' hm hm' =>
    Data.value.inj ((hrefs u v hm).2.symm.trans (hrefs u' v' hm').2)⟩

/-- No caller ever observes undefined behaviour (a read or destructor on the dead arm). -/
theorem C17_no_ub (kind : Kind) (c : Nat) (calls : Nat → List Call) (σ : List Nat) :
    (reach kind c calls σ).sh.ub = false ∧ ∀ u, Res.ub ∉ ((reach kind c calls σ).ths u).results := by
  have h := C17_one_owner kind c calls σ
  exact ⟨h.nub, fun u hm => h.res u _ hm⟩

/-- **`get` never blocks**: in *any* state, `get` is one enabled step; it answers `None` without
touching anything unless the once is initialised. -/
theorem C17_get_never_blocks (sh : Sh) (t : Nat) (th : Th) (rest : List Call)
    (hact : th.act = none) (hcalls : th.calls = .get :: rest) :
    ∃ sh' r, stepTh sh t th = some (sh', { th with calls := rest, results := r :: th.results }) ∧
      (sh.once ≠ .done → r = .none ∧ sh' = sh) := by
  rw [stepTh_idle hact, hcalls, getStep_eq]
  refine ⟨_, _, rfl, fun hd => ?_⟩
  cases ho : sh.once with
  | done => exact absurd ho hd
  | empty => exact ⟨rfl, rfl⟩
  | running r => exact ⟨rfl, rfl⟩

/-- **Drop once.** When the cell is dropped (no call in flight — `Drop` takes `&mut self`), the
destructor runs on the live arm; afterwards the seed has been dropped or forgotten exactly once
over the cell's whole life, a value was dropped iff an initialiser succeeded (exactly one then),
and the drop can only panic for a never-initialised cell whose seed's destructor panics. -/
theorem C17_drop_once (kind : Kind) (c : Nat) (calls : Nat → List Call) (σ : List Nat)
    (hq : ∀ u, ((reach kind c calls σ).ths u).act = none) :
    let f := dropCell (reach kind c calls σ).sh
    f.ub = false ∧ f.seedDrops + f.seedLeaks = 1 ∧ f.valDrops = (reach kind c calls σ).sh.inits ∧
    (f.panicked = true → (reach kind c calls σ).sh.kind = .bomb ∧ (reach kind c calls σ).sh.once = .empty) := by
  have h := C17_one_owner kind c calls σ
  generalize reach kind c calls σ = s at h hq
  obtain ⟨sh, ths⟩ := s
  have hub : sh.ub = false := h.nub
  have hp := h.phase
  dsimp only [Phase, acct, ledger0] at hp
  rcases hp with ⟨h1, ⟨c', h2⟩, h3, ⟨l1, l2⟩, _⟩ | ⟨r, a, _, h2, _⟩ | ⟨h1, ⟨v, h2⟩, h3, _, hacct⟩
  · -- never initialised: `dropArm false = .uninit` meets the seed, which is dropped if its type needs it, else leaked
    simp only [dropCell, h1, h2, dropArm]
    cases hk : sh.kind <;> simp [Kind.needsDrop, hub, l1, l2, h3]
  · have := hq r; simp only at this; rw [this] at h2; cases h2
  · -- initialised: `dropArm true = .init` meets the value; the seed is accounted for in the ledger already
    simp only [dropCell, h1, h2, dropArm, decide_true]
    rcases hacct with ⟨_, hl⟩ | ⟨hh, a, ha, _⟩
    · simp [hub, hl, h3]
    · have := hq hh; simp only at this; rw [this] at ha; cases ha

/-- **Panicking seed destructor.** If a caller saw the seed's destructor panic, the cell is
initialised all the same: the union holds the value, `get` returns it, and the seed's destructor
ran exactly once. -/
theorem C17_seed_drop_panic (kind : Kind) (c : Nat) (calls : Nat → List Call) (σ : List Nat) (u : Nat)
    (hp : Res.panicDrop ∈ ((reach kind c calls σ).ths u).results) :
    let sh := (reach kind c calls σ).sh
    sh.once = .done ∧ sh.kind = .bomb ∧ sh.seedDrops = 1 ∧
      ∃ v, sh.data = .value v ∧ getStep sh = some (sh, .ref v) := by
  have h := C17_one_owner kind c calls σ
  have hle := C17_seed_at_most_once kind c calls σ
  generalize reach kind c calls σ = s at h hp hle
  obtain ⟨sh, ths⟩ := s
  obtain ⟨h1, hk, (hge : 1 ≤ sh.seedDrops)⟩ := h.res u _ hp
  obtain ⟨v, h2⟩ := (done_phase h h1).1
  refine ⟨h1, hk, ?_, v, h2, ?_⟩
  · show sh.seedDrops = 1
    have : sh.seedDrops + sh.seedLeaks ≤ 1 := hle
    omega
  · rw [getStep_eq, h1, h2]

/-- **Failure keeps the seed.** Whenever a step makes a call end with the initialiser's error or
panic, the state right after it has the once empty, the union holding the seed (as the
initialiser left it), no destructor run, nothing forgotten, no value made — and that thread's call
is over (the error / panic went to the caller). -/
theorem C17_failure_keeps_seed (kind : Kind) (c : Nat) (calls : Nat → List Call) (σ : List Nat)
    (t : Nat) (r : Res) (hf : r = .panicF ∨ ∃ e, r = .err e)
    (hr : (((reach kind c calls σ).step t).ths t).results = r :: ((reach kind c calls σ).ths t).results) :
    let s' := (reach kind c calls σ).step t
    s'.sh.once = .empty ∧ (∃ c', s'.sh.data = .seed c') ∧ s'.sh.inits = 0 ∧
      s'.sh.seedDrops = 0 ∧ s'.sh.seedLeaks = 0 ∧ (s'.ths t).act = none := by
  have h := C17_one_owner kind c calls σ
  generalize reach kind c calls σ = s at h hr
  obtain ⟨sh, ths⟩ := s
  unfold Sys.step at hr ⊢
  cases hst : stepTh sh t (ths t) with
  | none => rw [hst] at hr; exact absurd hr.symm (List.cons_ne_self _ _)
  | some p =>
    obtain ⟨sh', th'⟩ := p
    rw [hst] at hr
    simp only [upd_same] at hr ⊢
    obtain ⟨a, c', hact, htok, hdata, rfl, hact'⟩ := stepTh_fail hst hr hf
    obtain ⟨hrun, hin, hl1, hl2⟩ := callF_runner h hact htok
    rw [abort_running (sh := { sh with data := .seed (c' + a.out.delta) }) hrun]
    exact ⟨rfl, ⟨_, rfl⟩, hin, hl1, hl2, hact'⟩

/-- **…so that a later attempt can succeed.** From any state with the once empty and the seed in
the union (by `C17_failure_keeps_seed` that is the state after every failure; by `C17_one_owner`
every reachable state with an empty once), a thread whose next call is a `get_or_try_init` with a
succeeding initialiser initialises the cell when scheduled alone, wherever the other threads
stand: there is a continuing schedule after which the cell holds the value made from the seed as
the failures left it (`c + d`), and the caller has the reference (or, for a seed with a panicking
destructor, that panic — the cell being initialised all the same). -/
theorem C17_retry_succeeds (s : Sys) (t c d : Nat) (rest : List Call)
    (h1 : s.sh.once = .empty) (h2 : s.sh.data = .seed c) (ha : (s.ths t).act = none)
    (hc : (s.ths t).calls = .init ⟨.ok, d⟩ :: rest) :
    ∃ σ', (run s σ').sh.once = .done ∧ (run s σ').sh.data = .value (c + d) ∧
      ((run s σ').ths t).results =
        (if s.sh.kind = .bomb then Res.panicDrop else .ref (c + d)) :: (s.ths t).results := by
  obtain ⟨sh, ths⟩ := s
  obtain ⟨n, hn⟩ := retry_succeeds sh ths t c d rest h1 h2 ha hc
  exact ⟨List.replicate n t, hn⟩

/-- **No deadlock.** In every reachable state in which some thread still has work (a call in
flight or a call to make), some thread can take a step: callers blocked on the once wait for a
closure that can always move on. (`get` itself is never blocked: `C17_get_never_blocks`.) -/
theorem C17_no_deadlock (kind : Kind) (c : Nat) (calls : Nat → List Call) (σ : List Nat) (u : Nat)
    (hw : ((reach kind c calls σ).ths u).act ≠ none ∨ ((reach kind c calls σ).ths u).calls ≠ []) :
    ∃ t, stepTh (reach kind c calls σ).sh t ((reach kind c calls σ).ths t) ≠ none := by
  have h := C17_one_owner kind c calls σ
  generalize reach kind c calls σ = s at h hw
  obtain ⟨sh, ths⟩ := s
  exact no_deadlock h u hw

/-! ## Non-vacuity: concrete schedules -/

/-- thread 0: failing init (+2), then get; thread 1: succeeding init (+1); thread 2: panicking init (+4), then init -/
def demoCalls : Nat → List Call
  | 0 => [.init ⟨.err, 2⟩, .get]
  | 1 => [.init ⟨.ok, 1⟩]
  | 2 => [.init ⟨.panic, 4⟩, .init ⟨.ok, 100⟩]
  | _ => []

/-- thread 0 enters the closure first and fails, 2 panics, 1 succeeds while 2 is blocked, then all finish -/
def demoSched : List Nat :=
  [0, 1, 0, 0, 1, 1, 0, 0, 2, 2, 2, 2, 2, 1, 1, 1, 2, 1, 1, 2, 2, 1, 1, 1, 1, 1, 1, 0, 2, 2, 2]

example : (reach .tracked 5 demoCalls demoSched).sh =
    { kind := .tracked, once := .done, data := .value 12, inits := 1, seedDrops := 1 } := by decide +kernel
example : ((reach .tracked 5 demoCalls demoSched).ths 0).results = [.ref 12, .err 7] := by decide +kernel
example : ((reach .tracked 5 demoCalls demoSched).ths 1).results = [.ref 12] := by decide +kernel
example : ((reach .tracked 5 demoCalls demoSched).ths 2).results = [.ref 12, .panicF] := by decide +kernel
example : ∀ u, u < 3 → ((reach .tracked 5 demoCalls demoSched).ths u).act = none := by decide +kernel
example : dropCell (reach .tracked 5 demoCalls demoSched).sh = ⟨1, 0, 1, false, false⟩ := by decide +kernel
/-- a blocked caller: thread 1 at `onceEnter` while thread 0 is inside the closure -/
example : stepTh (reach .tracked 5 demoCalls [0, 0, 0, 1, 1, 1]).sh 1 ((reach .tracked 5 demoCalls [0, 0, 0, 1, 1, 1]).ths 1) = none := by decide +kernel
/-- panicking destructor: the caller sees the panic, the cell is initialised -/
example : ((reach .bomb 5 demoCalls (List.replicate 12 1)).ths 1).results = [.panicDrop] ∧
    (reach .bomb 5 demoCalls (List.replicate 12 1)).sh.once = .done := by decide +kernel
/-- no-drop path: the seed is forgotten, never dropped -/
example : (reach .plain 5 demoCalls (List.replicate 8 1)).sh =
    { kind := .plain, once := .done, data := .value 6, inits := 1, seedLeaks := 1 } := by decide +kernel

/-- Both maps (sharded `AssetCache`, single-threaded `LocalAssetCache`) insert with `entry(key).or_insert(entry)` inside one
lock / borrow scope: the first entry for a key survives, handles that were given out stay valid, a late entry is dropped. -/
theorem C17_insert_keeps_first :
    AmVerif.Gen.skel_cache_AssetMap_for_AssetMap_insert = [.call .s_get_shard, .acq .s_write 0, .call .s_entry, .call .s_or_insert, .rel 0] ∧
    AmVerif.Gen.skel_local_cache_AssetMap_for_AssetMap_insert = [.acq .s_borrow_mut 0, .call .s_entry, .call .s_or_insert, .rel 0] := ⟨rfl, rfl⟩

/-- A stored cell is replaced by hot-reloading only inside the entry's write-lock scope (swap, id, flag; old value dropped
by the caller afterwards): no reader can be inside `get_or_init` of a cell that is being swapped. -/
theorem C17_write_under_lock : AmVerif.Gen.skel_entry_UntypedEntry_write =
    [.branch [[.acq .s_write 0, .call .s_get, .call .s_get_mut, .call .s_swap_any, .call .s_increment, .call .s_store_Release, .rel 0, .ret], []],
     .call .s_wrong_handle_type] := rfl

end AmVerif.Props.C17
