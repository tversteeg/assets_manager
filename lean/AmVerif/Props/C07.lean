import AmVerif.Gen.TabLock
import AmVerif.Lemmas.IsoLock
import AmVerif.Lemmas.IsoTok
/-!
# C07 — readers are isolated from reloads: guards pin values, no torn reads

Model: `Model/Iso.lean` (one dynamic entry of `k` words, any number of readers, the reloader
thread, any number of `hot_reload` callers, local mode). The writer's step program, the reader's
lock, the behaviour of `map`/`try_map`, the order `update ; notify` of the reloader's `Ptr` arm and
the caller's `send ; wait` are *compiled from the regenerated skeletons* (`codeCfg`); the theorems
are proved for every well-formed configuration (the `_gen` forms in `Lemmas/IsoStep`, `IsoLock`, `IsoTok`)
and instantiated below with the one the current source yields — `C07_code_wf` is the obligation that fails when the source stops being
well-formed (wrong lock kind, an effect outside the guard's extent, increment before the swap,
answer before the update, …).

Every theorem quantifies over the word count `k`, the number of readers `n`, and the schedule `σ`
(which also carries the readers' choices and the number of writes per reload pass).
-/
namespace AmVerif.Props.C07
open AmVerif.Gen AmVerif.Model AmVerif.Model.Iso AmVerif.Lemmas.IsoLock AmVerif.Lemmas.IsoTok

/-! ## What the regenerated skeletons say -/

/-- `UntypedEntry::write` = `lock.write()` ; `swap_any` ; `reload.increment()` ;
`reload_global.store(Release)` ; guard dropped ; `return`. -/
theorem C07_skel_write : compileWrite skel_entry_UntypedEntry_write =
    some [.acq .write, .copy, .inc, .setFlag, .rel] := by decide

/-- Facts the proofs need, derived from that program: the lock taken is `write`; `swap_any` and
`increment` lie inside the guard's extent and nothing is held at the end (`wfW`); the id is
incremented once, after the complete swap (`ordOk`). -/
theorem C07_skel_write_discipline : wfW none codeWProg = true ∧ ordOk false false codeWProg = true := by decide

/-- `EntryStorage::read` takes `lock.read()` and moves that guard into the returned `AssetReadGuard`. -/
theorem C07_skel_read : codeReadLocks = true := by decide

/-- `AssetReadGuard::{map,try_map}` move the guard on: no acquisition, no release. -/
theorem C07_skel_map : codeMapKeeps = true := by decide

/-- The reloader answers a `Ptr` message after `update_if_local`, and that is the last thing it does for it. -/
theorem C07_skel_answer_after_update : codeArm = [.update, .notify] := by decide

/-- `HotReloader::reload`: token, `send(Ptr)`, then wait for the answer. -/
theorem C07_skel_caller_waits : codeCallerWaits = true := by decide

/-- The update of a pass reaches `UntypedEntry::write` through `update_if_local` → `run_update` →
(loop) `DepsGraph::reload` → `reload_untyped` → `write`. -/
theorem C07_skel_update_chain :
    ((firstBranch skel_hot_reloading_paths_HotReloadingData_update_if_local).bind List.head?).any (hasCall .s_run_update) = true ∧
    (firstLoop skel_hot_reloading_paths_run_update).any (hasCall .s_reload) = true ∧
    (skel_anycache_AnyCache_reload_untyped.any fun | .branch (alt :: _) => hasCall .s_write alt | _ => false) = true := by
  decide

/-- **The obligation on the source**: the configuration extracted from the current tree is well-formed. -/
theorem C07_code_wf (k : Nat) : (codeCfg k).WF = true := by
  show (wfW none codeWProg && ordOk false false codeWProg && codeReadLocks && codeMapKeeps && armOk codeArm && codeCallerWaits) = true
  rw [C07_skel_write_discipline.1, C07_skel_write_discipline.2, C07_skel_read, C07_skel_map, C07_skel_answer_after_update,
    C07_skel_caller_waits]
  rfl

/-! ## The property theorems, for the configuration extracted from the current source -/

/-- **While an `AssetReadGuard` is alive nothing it protects changes.** In every reachable state, if
some reader holds a guard (directly or mapped), then no step of any thread changes a word of the
value or the handle's reload id — i.e. between a reader's acquire and its release no `copy` / `inc`
step occurs. -/
theorem C07_guard_pins (k n : Nat) (σ : List Act) (r : Nat)
    (hr : ((run (codeCfg k) (init n) σ).rd r).holding = true) (a : Act) :
    (step (codeCfg k) (run (codeCfg k) (init n) σ) a).words = (run (codeCfg k) (init n) σ).words ∧
    (step (codeCfg k) (run (codeCfg k) (init n) σ) a).rid = (run (codeCfg k) (init n) σ).rid :=
  guard_pins_gen (lockInv_run (C07_code_wf k) n σ) r hr a

/-- Consequence, as the reader sees it: every word and every reload id it has observed under its
current guard is still what the entry holds, however long the guard has lived and whatever the
other threads did meanwhile (so re-reading through the guard always yields the same). -/
theorem C07_guard_pins_view (k n : Nat) (σ : List Act) (r : Nat) (l : Bool) (ow : List (Nat × Nat)) (oid : List Nat)
    (hr : (run (codeCfg k) (init n) σ).rd r = .hold l ow oid) :
    (∀ p ∈ ow, (run (codeCfg k) (init n) σ).words p.1 = p.2) ∧ (∀ x ∈ oid, x = (run (codeCfg k) (init n) σ).rid) := by
  have v := (lockInv_run (C07_code_wf k) n σ).hold hr
  exact ⟨fun p hp => (v.words_eq p hp).2, v.rid_eq⟩

/-- The writer and the readers exclude each other: while the reloader is inside the write lock
(in particular in the middle of the word-by-word swap) no reader holds a guard. -/
theorem C07_writer_excludes_readers (k n : Nat) (σ : List Act)
    (hw : (run (codeCfg k) (init n) σ).wheld = some .write) (r : Nat) : (run (codeCfg k) (init n) σ).rd r = .idle :=
  no_holder (lockInv_run (C07_code_wf k) n σ) hw r

/-- **No torn read.** All words observed under one guard carry the same version: a reader sees a
complete old value or a complete new value, never a mixture. -/
theorem C07_no_torn_read (k n : Nat) (σ : List Act) (r : Nat) (l : Bool) (ow : List (Nat × Nat)) (oid : List Nat)
    (hr : (run (codeCfg k) (init n) σ).rd r = .hold l ow oid) : ∀ p ∈ ow, ∀ q ∈ ow, p.2 = q.2 :=
  no_torn_gen (lockInv_run (C07_code_wf k) n σ) r l ow oid hr

/-- The reload id is never ahead of the value: at every moment (guard or not) every word carries a
version at least the id, i.e. once a reload id is visible the complete new value is in place. -/
theorem C07_rid_never_ahead (k n : Nat) (σ : List Act) (i : Nat) (hi : i < k) :
    (run (codeCfg k) (init n) σ).rid ≤ (run (codeCfg k) (init n) σ).words i :=
  rid_never_ahead_gen (lockInv_run (C07_code_wf k) n σ) hi

/-- **Values change only inside `hot_reload`** (local mode), state form: whenever a step changes a
word or the reload id, the step is logged as a write of the pass being served and some caller has
sent the `Ptr` of that pass and has not returned. -/
theorem C07_changes_only_inside_hot_reload (k n : Nat) (σ : List Act) (a : Act)
    (hch : (step (codeCfg k) (run (codeCfg k) (init n) σ) a).words ≠ (run (codeCfg k) (init n) σ).words ∨
           (step (codeCfg k) (run (codeCfg k) (init n) σ) a).rid ≠ (run (codeCfg k) (init n) σ).rid) :
    (step (codeCfg k) (run (codeCfg k) (init n) σ) a).log = .wr (run (codeCfg k) (init n) σ).cur :: (run (codeCfg k) (init n) σ).log ∧
    ∃ c, (run (codeCfg k) (init n) σ).cl c = .waiting (run (codeCfg k) (init n) σ).cur :=
  changes_inside_gen (tokInv_run (C07_code_wf k) n σ) a hch

/-- Same, trace form (the log is newest first): every write of pass `t` is preceded by some caller's
`send Ptr(t)`, and that caller has not returned before the write. -/
theorem C07_changes_only_inside_hot_reload_trace (k n : Nat) (σ : List Act) (newer older : List Ev) (t : Nat)
    (hl : (run (codeCfg k) (init n) σ).log = newer ++ .wr t :: older) :
    ∃ c, .sent c t ∈ older ∧ .ret c t ∉ older := by
  have h := (tokInv_run (C07_code_wf k) n σ).log
  rw [hl] at h
  obtain ⟨⟨c, hc⟩, nr⟩ := (okLog_suffix h).1
  exact ⟨c, hc, nr c⟩

/-- **`hot_reload` returns after the writes of its pass**: once caller `c` has returned with token
`t`, no write of pass `t` happens any more — every write its `Ptr` triggered lies before the return. -/
theorem C07_returns_after_writes (k n : Nat) (σ : List Act) (newer older : List Ev) (c t : Nat)
    (hl : (run (codeCfg k) (init n) σ).log = newer ++ .ret c t :: older) : .wr t ∉ newer :=
  returns_after_writes_gen (hl ▸ (tokInv_run (C07_code_wf k) n σ).log)

/-- … and it returns only after the reloader posted the answer for its token, which it does after
the update of that pass is complete (no `write` call running, no `update` step left). -/
theorem C07_return_needs_finished_pass (k n : Nat) (σ : List Act) (c t : Nat)
    (_hw : (run (codeCfg k) (init n) σ).cl c = .waiting t) (ha : t ∈ (run (codeCfg k) (init n) σ).answered) :
    (run (codeCfg k) (init n) σ).cur = t → (run (codeCfg k) (init n) σ).wrest = [] ∧ .update ∉ (run (codeCfg k) (init n) σ).rrest :=
  fun hcur => return_needs_finished_pass_gen (tokInv_run (C07_code_wf k) n σ) (hcur ▸ ha)

/-! ## Non-vacuity: concrete schedules -/

/-- Two words, two readers. Reader 0 takes a guard and reads word 0; a caller starts a reload; the
reloader receives it, starts a `write`, and is *blocked* at `lock.write()` (stutters) while the guard
lives; reader 0 maps its guard, reads word 1 and the id; only after it releases does the writer
swap both words, bump the id and answer; reader 1 then sees the complete new value. -/
def demo : List Act :=
  [.acq 0, .readW 0 0, .tok 0, .send 0, .rl true, .rl true, .rl true, .rl true, .map 0, .readW 0 1, .readId 0]

example : (run (codeCfg 2) (init 2) demo).rd 0 = .hold true [(1, 0), (0, 0)] [0] := by decide +kernel
example : (run (codeCfg 2) (init 2) demo).wheld = none ∧ (run (codeCfg 2) (init 2) demo).wrest = codeWProg := by decide +kernel
example : (run (codeCfg 2) (init 2) demo).cl 0 = .waiting 0 := by decide +kernel

def demo2 : List Act :=
  demo ++ [.rel 0, .rl true, .rl true, .acq 1, .rl true, .rl true, .rl true, .rl true, .rl true, .rl false, .rl false, .ret 0, .acq 1, .readW 1 0, .readW 1 1, .readId 1]

example : (run (codeCfg 2) (init 2) demo2).rd 1 = .hold true [(1, 1), (0, 1)] [1] := by decide +kernel
example : (run (codeCfg 2) (init 2) demo2).log = [.ret 0 0, .wr 0, .wr 0, .wr 0, .sent 0 0] := by decide +kernel

/-! ## The hypotheses matter: ill-formed configurations have violating schedules -/

/-- `lock.write()` → `lock.read()` in `write`: a reader observes word 0 of the old and word 1 of the new value. -/
example : readerOk (run { codeCfg 2 with wprog := [.acq .read, .copy, .inc, .setFlag, .rel] } (init 1)
    [.tok 0, .send 0, .rl true, .rl true, .acq 0, .readW 0 1, .rl true, .rl true, .rl true, .readW 0 0]) 0 = false := by decide +kernel
example : ({ codeCfg 2 with wprog := [.acq .read, .copy, .inc, .setFlag, .rel] } : Cfg).WF = false := by decide +kernel

/-- increment / flag moved in front of the lock: the id changes under a live guard. -/
example : readerOk (run { codeCfg 2 with wprog := [.inc, .setFlag, .acq .write, .copy, .rel] } (init 1)
    [.tok 0, .send 0, .rl true, .acq 0, .readId 0, .rl true, .rl true]) 0 = false := by decide +kernel
example : ({ codeCfg 2 with wprog := [.inc, .setFlag, .acq .write, .copy, .rel] } : Cfg).WF = false := by decide +kernel

/-- answer before the update: the caller has returned and the value changes afterwards. -/
example : logOk (run { codeCfg 1 with arm := [.notify, .update] } (init 0)
    [.tok 0, .send 0, .rl true, .rl true, .ret 0, .rl true, .rl true, .rl true]).log = false := by decide +kernel
example : ({ codeCfg 1 with arm := [.notify, .update] } : Cfg).WF = false := by decide +kernel

/-- The crate's own `Condvar::wait_while` (wrapper over std / parking_lot in `utils/private.rs`) re-checks its
condition after every wake-up in both lock implementations: `Answers` shares one condition variable between all
`hot_reload` callers and the reloader and wakes with `notify_all`, so the model's "a waiter proceeds only when its
own condition holds" is this fact. -/
theorem C07_wait_while_rechecks : waitWhileRechecksStd = true ∧ waitWhileRechecksParkingLot = true := by decide

/-- Both maps (sharded `AssetCache`, single-threaded `LocalAssetCache`) insert with `entry(key).or_insert(entry)` inside one
lock / borrow scope: the first entry for a key survives, handles that were given out stay valid, a late entry is dropped. -/
theorem C07_insert_keeps_first :
    AmVerif.Gen.skel_cache_AssetMap_for_AssetMap_insert = [.call .s_get_shard, .acq .s_write 0, .call .s_entry, .call .s_or_insert, .rel 0] ∧
    AmVerif.Gen.skel_local_cache_AssetMap_for_AssetMap_insert = [.acq .s_borrow_mut 0, .call .s_entry, .call .s_or_insert, .rel 0] := ⟨rfl, rfl⟩

/-- Value-level facts of the `hot_reload` handshake that no effect skeleton shows: a caller waits for exactly its own token, the
reloader publishes only into an empty slot, tokens are distinct, `notify_all` wakes every sleeper; and a request takes in the events
that were sent before it (the loop is bounded by the length of the EVENT channel). -/
theorem C07_handshake_values : AmVerif.Gen.answersHandshakeExact = true ∧ AmVerif.Gen.requestTakesPendingEvents = true := by decide

end AmVerif.Props.C07
