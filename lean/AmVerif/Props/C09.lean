import AmVerif.Lemmas.Fault
import AmVerif.Lemmas.Entry
import AmVerif.Gen.Skel
/-!
# C09 — faults while loading are contained

A fault is an `io::Error` answered by the source at some read index, or an error / a panic of a
loader at some invocation. In the model the source (`Env.read`, `Env.readDir`) is a function of the
running read counter and `Env.loaderFault` a function of the running checkpoint counter, so *every*
fault plan is just an `Env`; loaders are arbitrary `Prog` terms (their continuations are Lean
functions). All theorems below are therefore quantified over every environment, every loader
program, every fuel and every state: "whatever fault happens, wherever".

* `C09_cached_untouched` — every entry cached before an evaluation is cached, unchanged (value,
  reload id, flag, address) afterwards, for every outcome.
* `C09_recording_restored`, `C09_frames_popped_exactly`, `C09_guard_is_drop_guard` — the thread's
  recording stack is restored on every exit path (return, error, panic, fuel exhaustion).
* `C09_no_partial_value`, `C09_insert_after_try`, `C09_write_only_after_ok` — a load that does not
  return `ok` leaves, for every key, exactly what evaluating the loader body left.
* `C09_failed_reload_keeps_value`, `C09_reload_other_keys_untouched` — a reload whose loader fails
  (error, panic, exhaustion) changes no cached entry.
* `C09_reload_panic_contained`, `C09_reload_continues_after_panic`, `C09_reloader_survives` — a
  panicking loader does not kill the reloader thread (today's source: `reloadCatchesPanic = true`).
* `C09_recovers`, `C09_retry_is_first_load` — what a failed attempt leaves behind besides the
  entries of completed nested loads (counters, logs) is consulted by no later evaluation.
-/
namespace AmVerif.Props.C09
open AmVerif.Gen AmVerif.Model

/-! ## Facts regenerated from the source -/

/-- `record` and `no_record` install their frame through `CellGuard::replace` *before* calling
`f` and contain no explicit restore: the restore is `Drop for CellGuard` (`cell.set(val)`), which
runs on unwinding as well. (A save / call / restore sequence has a `set` after `f` in the body.) -/
theorem C09_guard_is_drop_guard :
    skel_hot_reloading_records_record = [.closure [.call .s_replace, .call .s_f], .call .s_with] ∧
    skel_hot_reloading_records_no_record = [.closure [.call .s_replace, .call .s_f], .call .s_with] ∧
    skel_hot_reloading_records_CellGuard_replace = [.call .s_replace] ∧
    skel_hot_reloading_records_Drop_for_CellGuard_drop = [.call .s_set] := ⟨rfl, rfl, rfl, rfl⟩

/-- `add_asset`: the entry is inserted after the `?` on `load_and_record` (nothing is inserted for a
load that failed or unwound). -/
theorem C09_insert_after_try :
    skel_anycache_RawCache_add_asset = [.call .s_load_and_record, .try_, .call .s_insert] := rfl

/-- `reload_untyped`: the loader runs under `catch_unwind`; `handle.write` is reached only in the
`Ok` arm, after both the panic check and the error check. -/
theorem C09_write_only_after_ok :
    skel_anycache_AnyCache_reload_untyped =
      [.call .s_get_cached_untyped, .try_, .call .s_is_dynamic, .branch [[.ret], []],
       .closure [.branch [[.call .s_record], [.call .s_load_asset]]], .call .s_AssertUnwindSafe, .call .s_catch_unwind,
       .branch [[], [.ret]], .branch [[.call .s_write], []]] := rfl

/-- Today's source contains a loader panic during a reload and leaves static entries alone. -/
theorem C09_cfg_ok : reloadCatchesPanic = true ∧ reloadSkipsStatic = true := by decide

/-! ## Values already cached are untouched -/

/-- Whatever fault happens during any evaluation (`env` is arbitrary: every read may fail with any
error, every loader checkpoint may fail or panic), every entry cached before is still cached,
unchanged, afterwards — whatever the outcome. -/
theorem C09_cached_untouched (env : Env) (fuel : Nat) (s : St) (p : Prog) (k : Key) (c : Cell)
    (h : s.lookup k = some c) : (eval env fuel s p).1.lookup k = some c := eval_mono env fuel s p k c h

/-- The same for the public operations `load` and `load_owned`. -/
theorem C09_cached_untouched_op (env : Env) (fuel : Nat) (s : St) (key : Key) (k : Key) (c : Cell)
    (h : s.lookup k = some c) :
    (step env fuel s (.load key)).1.lookup k = some c ∧ (step env fuel s (.loadOwned key)).1.lookup k = some c :=
  ⟨step_keeps env fuel s (.load key) k c rfl h, step_keeps env fuel s (.loadOwned key) k c rfl h⟩

/-! ## The recording of the calling thread is restored -/

/-- Through every evaluation — outcome `ok`, `err`, `panicked` or `diverged` alike — the recording
stack below the top frame is untouched and the depth is the same; a thread that was not recording is
not recording afterwards. -/
theorem C09_recording_restored (env : Env) (fuel : Nat) (s : St) (p : Prog) :
    (eval env fuel s p).1.recs.tail = s.recs.tail ∧
    (eval env fuel s p).1.recs.length = s.recs.length ∧
    (s.recs = [] → (eval env fuel s p).1.recs = []) := by
  have h := eval_shape env fuel s p
  exact ⟨h.1, h.2, fun h0 => List.eq_nil_of_length_eq_zero (h.2.trans (congrArg List.length h0))⟩

/-- Every frame pushed by `record` / `no_record` / a helper thread is popped exactly, whatever the
body does (the body is an arbitrary state transformer with an arbitrary outcome): the recording
after `no_record(f)` is *equal* to the recording before, also when `f` panics. -/
theorem C09_frames_popped_exactly (env : Env) (fuel : Nat) (s : St) (body : Prog)
    (frame : Option (List Dep)) (g : St → St × Outcome) :
    (withFrame true frame g s).1.recs = s.recs ∧
    (onFreshThread g s).1.recs = s.recs ∧
    (eval env (fuel + 2) s (.noRecord body Prog.ret')).1.recs = s.recs ∧
    (eval env (fuel + 2) s (.onThread body Prog.ret')).1.recs = s.recs := by
  refine ⟨withFrame_restores frame g s, rfl, ?_, ?_⟩
  · rw [eval_noRecord, cont_ret']
    exact withFrame_restores none (fun s => eval env (fuel + 1) s body) s
  · rw [eval_onThread, cont_ret']
    rfl

/-- `load_and_record` whose loader panics (or exhausts the fuel) leaves the recording exactly as it
was: the `record` frame is popped, nothing is handed to the enclosing record. -/
theorem C09_load_panic_restores (env : Env) (g : St → St × Outcome) (key : Key) (s : St)
    (hp : (loadAndRecord env g key s).2 = .panicked ∨ (loadAndRecord env g key s).2 = .diverged)
    (hpush : recordsAsset (env.types key.ty).hot env.hasReloader = true) :
    (loadAndRecord env g key s).1.recs = s.recs := by
  rw [loadAndRecord_hot env g key s hpush] at hp ⊢
  generalize g s.enter = r at hp ⊢
  obtain ⟨sb, o⟩ := r
  cases o with
  | panicked => rfl
  | diverged => rfl
  | _ => rcases hp with h | h <;> cases h

/-! ## No partially built value becomes visible -/

/-- the state the loader body of `load key` / `load_owned key` starts from -/
def loaderStart (env : Env) (key : Key) (s : St) : St :=
  frameStart (recordsAsset (env.types key.ty).hot env.hasReloader) (some [])
    (s.record (recordsAsset (env.types key.ty).hot env.hasReloader) (.asset key))

/-- A `load` of an absent key that does not return `ok` (error, panic, exhaustion — at any point,
for any reason) leaves, for *every* key, exactly what evaluating the loader body left: in
particular the key itself is absent afterwards unless a nested successful load of that same key
cached it, and the only new entries are those of nested loads that completed. -/
theorem C09_no_partial_value (env : Env) (f : Nat) (s : St) (key : Key)
    (habs : s.lookup key = none)
    (hfail : ∀ v, (eval env (f + 2) s (.load key Prog.ret')).2 ≠ .ok v) (k' : Key) :
    (eval env (f + 2) s (.load key Prog.ret')).1.lookup k' =
      (eval env (f + 1) (loaderStart env key s) ((env.types key.ty).prog key.id)).1.lookup k' := by
  unfold loaderStart
  refine Eq.trans ?_ (loadAndRecord_lookup env (fun s => eval env (f + 1) s ((env.types key.ty).prog key.id)) key _ k')
  rw [eval_load_ret' env f s key habs] at hfail ⊢
  generalize loadAndRecord env _ key _ = r at hfail ⊢
  obtain ⟨s1, o⟩ := r
  cases o with
  | ok v => exact absurd rfl (hfail _)
  | _ => rfl

/-- `load_owned` never caches the asset it builds, whatever its outcome. -/
theorem C09_load_owned_caches_nothing (env : Env) (f : Nat) (s : St) (key : Key) (k' : Key) :
    (eval env (f + 2) s (.loadOwned key Prog.ret')).1.lookup k' =
      (eval env (f + 1) (loaderStart env key s) ((env.types key.ty).prog key.id)).1.lookup k' := by
  unfold loaderStart
  refine Eq.trans ?_ (loadAndRecord_lookup env (fun s => eval env (f + 1) s ((env.types key.ty).prog key.id)) key _ k')
  rw [eval_loadOwned_ret'_fst]
  generalize loadAndRecord env _ key _ = r
  obtain ⟨s1, o⟩ := r
  cases o <;> rfl

/-! ## Reloads -/

/-- the loader evaluation inside `reload_untyped` (state, outcome, recorded dependencies) -/
def reloadEval (env : Env) (fuel : Nat) (s : St) (key : Key) : St × Outcome × List Dep :=
  withFrame true (some []) (fun s => eval env fuel s ((env.types key.ty).prog key.id)) { s with recs := [] }

/-- **A failed reload leaves the cache unchanged**: if the loader run by `reload_untyped` does not
return `ok` — error, panic, exhaustion, at any point, for any reason — every entry cached before
(the reloaded asset included: value, reload id, flag, address) is unchanged. -/
theorem C09_failed_reload_keeps_value (env : Env) (fuel : Nat) (s : St) (key : Key)
    (hfail : ∀ v, (reloadEval env fuel s key).2.1 ≠ .ok v) (k : Key) (c : Cell)
    (h : s.lookup k = some c) : (reloadUntyped env fuel s key).1.lookup k = some c := by
  obtain ⟨s1, hle, _, ⟨_, e⟩ | ⟨_, v, _, _, hv, _, _⟩⟩ := reloadUntyped_cases env fuel s key
  · rw [e]; exact hle k c h
  · exact absurd hv (hfail v)

/-- For the reloaded key alone (the form of the statement: "for a faulted reload the asset keeps
its previous value"), present or not. -/
theorem C09_failed_reload_keeps_key (env : Env) (fuel : Nat) (s : St) (key : Key)
    (hfail : ∀ v, (reloadEval env fuel s key).2.1 ≠ .ok v) :
    (reloadUntyped env fuel s key).1.lookup key = s.lookup key := by
  cases hk : s.lookup key with
  | some c => exact C09_failed_reload_keeps_value env fuel s key hfail key c hk
  | none => rw [reloadUntyped_absent env fuel s key hk]; exact hk

/-- Whatever the outcome of a reload, entries of *other* keys cached before are unchanged (a
successful reload writes the reloaded entry only). -/
theorem C09_reload_other_keys_untouched (env : Env) (fuel : Nat) (s : St) (key : Key) (k : Key) (c : Cell)
    (hne : k ≠ key) (h : s.lookup k = some c) : (reloadUntyped env fuel s key).1.lookup k = some c :=
  reloadUntyped_other env fuel s key k c hne h

/-- **A panicking loader during a reload is contained** (obligation on today's source:
`reloadCatchesPanic = true`): `reload_untyped` returns `None` — the thread goes on. -/
theorem C09_reload_panic_contained (env : Env) (fuel : Nat) (s : St) (key : Key)
    (hp : (reloadEval env fuel s key).2.1 = .panicked) :
    ∃ s1, reloadUntyped env fuel s key = (s1, .done none) := by
  rcases reloadUntyped_dyn_or C09_cfg_ok.2 env fuel s key with ⟨c0, hk, hdyn⟩ | e
  · have hu := reloadUntyped_dyn env fuel s key c0 hk hdyn
    change (AmVerif.Model.reloadEval env fuel s key).2.1 = .panicked at hp
    generalize AmVerif.Model.reloadEval env fuel s key = y at hp hu
    obtain ⟨s1, o, d⟩ := y
    cases hp
    -- `if reloadCatchesPanic then … else …` with the regenerated `reloadCatchesPanic := true`
    exact ⟨s1, hu⟩
  · exact ⟨s, e⟩

/-- `reload_untyped` ends the reloader thread only if the loader exhausted every fuel (the model's
rendering of unbounded recursion): never because of an error or a panic. -/
theorem reloadUntyped_died (env : Env) (fuel : Nat) (s : St) (key : Key) (s1 : St)
    (hd : reloadUntyped env fuel s key = (s1, .died)) : (reloadEval env fuel s key).2.1 = .diverged := by
  rcases reloadUntyped_dyn_or C09_cfg_ok.2 env fuel s key with ⟨c0, hk, hdyn⟩ | e
  · rw [reloadUntyped_dyn env fuel s key c0 hk hdyn] at hd
    show (AmVerif.Model.reloadEval env fuel s key).2.1 = .diverged
    generalize AmVerif.Model.reloadEval env fuel s key = y at hd
    obtain ⟨s2, o, d⟩ := y
    cases o with
    | diverged => rfl
    | _ => cases hd
  · rw [e] at hd; cases hd

/-- After a panicking reload of `k`, `run_update` goes on with the remaining keys, with the graph
and the cache as they were. -/
theorem C09_reload_continues_after_panic (env : Env) (fuel : Nat) (s : St) (r : RSt) (k : Key) (ks : List Key)
    (node : GNode) (hnode : r.graph.get (.asset k) = some node) (hty : node.typed = true) (halive : r.dead = false)
    (hp : (reloadEval env fuel s k).2.1 = .panicked) :
    ∃ s1, reloadAll env fuel (k :: ks) (s, r) = reloadAll env fuel ks (s1, r) ∧ ∀ k' c, s.lookup k' = some c → s1.lookup k' = some c := by
  obtain ⟨s1, h1⟩ := C09_reload_panic_contained env fuel s k hp
  refine ⟨s1, ?_, ?_⟩
  · rw [((reloadAll_cons env fuel k ks s r).resolve_right (fun h => h.1 ⟨halive, node, hnode, hty⟩)).2, h1]
    rfl
  · intro k' c hk'
    have := C09_failed_reload_keeps_value env fuel s k (fun v hv => nomatch hp.symm.trans hv) k' c hk'
    rw [h1] at this
    exact this

/-- No loader evaluation exhausts the fuel, from any state (loaders return, fail or panic). -/
def Returns (env : Env) (fuel : Nat) : Prop := ∀ s key, (reloadEval env fuel s key).2.1 ≠ .diverged

theorem reloadAll_alive (env : Env) (fuel : Nat) (hret : Returns env fuel) :
    ∀ (ks : List Key) (s : St) (r : RSt), r.dead = false → (reloadAll env fuel ks (s, r)).2.dead = false := by
  refine fun ks s r => reloadAll_inv env fuel (fun x => x.2.dead = false) (fun s r k h _ => ?_) ks s r
  cases ho : (reloadUntyped env fuel s k).2 with
  | died => exact absurd (reloadUntyped_died env fuel s k _ (Prod.ext rfl ho)) (hret s k)
  | done d =>
    cases d with
    | none => exact h
    | some p => obtain ⟨deps, b⟩ := p; cases b <;> exact h

/-- **The reloader thread survives every fault**: with loaders that return, fail or panic — errors and
panics at any point of any reload — `hot_reload` leaves the thread alive (it answers its caller),
provided the topological sort of the pass returns (C08: it does on every finite graph). -/
theorem C09_reloader_survives (env : Env) (fuel : Nat) (s : St) (r : RSt) (hret : Returns env fuel)
    (halive : r.dead = false)
    (htopo : (topo (processMsgs s r).2.graph fuel (processMsgs s r).2.toReload).isSome = true) :
    (hotReload env fuel s r).2.dead = false := by
  have hpd : (processMsgs s r).2.dead = false := (processMsgs_dead s r).trans halive
  cases hs : r.static_ with
  | true => rw [hotReload_static env fuel s r halive hs]; exact hpd
  | false =>
    rw [hotReload_local env fuel s r halive hs, processMsgs_dead]
    rcases runUpdate_form env fuel (processMsgs s r).1 (processMsgs s r).2 with ⟨ht, _⟩ | ⟨keys, _, e⟩
    · rw [ht] at htopo; cases htopo
    · rw [e]; exact reloadAll_alive env fuel hret keys _ _ hpd

/-! ## Later loads pick up the repaired source -/

/-- **What a failed attempt leaves behind is consulted by nobody.** Under a repaired environment
(no fault plan left: its answers do not depend on the running read / checkpoint index), two states
with the same map, address counter and recording — e.g. the state after a failed load versus the
same map reached without the failed attempt's reads, checkpoints, messages — evaluate every
program to the same outcome and to states that again differ only in counters and logs. -/
theorem C09_recovers (env : Env) (hst : env.Steady) (fuel : Nat) (p : Prog) (s t : St) (h : Sim s t) :
    (eval env fuel s p).2 = (eval env fuel t p).2 ∧ Sim (eval env fuel s p).1 (eval env fuel t p).1 :=
  ⟨(eval_sim env hst fuel p s t h).2, (eval_sim env hst fuel p s t h).1⟩

/-- The retry of a failed `load`, spelled out: let `s'` be the state a failed `load key` (evaluated
under ANY environment `envF`, i.e. any fault plan) left. Under a repaired environment `env`, the retry
from `s'` gives the result a first `load key` gives from any state with the same map (the entries of
the nested loads that completed), address counter and recording — the failed attempt leaves no flag,
placeholder or lock behind that a later `load` could see. -/
theorem C09_retry_is_first_load (envF env : Env) (hst : env.Steady) (fuelF fuel : Nat) (s t : St) (key : Key)
    (ht : Sim (step envF fuelF s (.load key)).1 t) :
    (step env fuel (step envF fuelF s (.load key)).1 (.load key)).2 = (step env fuel t (.load key)).2 := by
  generalize (step envF fuelF s (.load key)).1 = s' at ht ⊢
  obtain ⟨hs, ho⟩ := eval_sim env hst fuel (.load key Prog.ret') { s' with recs := [] } { t with recs := [] }
    ⟨ht.map, ht.next, rfl⟩
  have ho' : (evalTop env fuel s' (.load key Prog.ret')).2 = (evalTop env fuel t (.load key Prog.ret')).2 := ho
  have hl : (evalTop env fuel s' (.load key Prog.ret')).1.lookup key = (evalTop env fuel t (.load key Prog.ret')).1.lookup key :=
    hs.lookup key
  rw [step_load_snd, step_load_snd, ho', hl]

/-! ## Non-vacuity -/

/-- an environment whose every read fails (every read index is a fault), whose every loader
checkpoint panics, with one hot script-like type that passes a checkpoint, reads, then loads -/
def envAllFaults : Env :=
  { read := fun _ _ _ => .error ⟨false, "Other", "x"⟩, readDir := fun _ _ => .error ⟨false, "Other", "x"⟩,
    types := fun _ => { hot := true, prog := fun id => .tick fun f => match f with
      | some true => .panic
      | _ => .read id "s" fun r => match r with | .ok _ => .ret (.int 1) | .error e => .fail (.io e) },
    hasReloader := true, loaderFault := fun _ => some true }

/-- a repaired environment (nothing depends on the index) -/
def envSteady : Env :=
  { read := fun _ _ _ => .ok [], readDir := fun _ _ => .ok [], types := fun _ => { hot := true, prog := fun _ => .ret (.int 1) },
    hasReloader := true }

def cell0 : Cell := { val := .int 7, dyn := true, rid := 3, flag := false, addr := 0 }
def st0 : St := { map := [(⟨0, "a"⟩, cell0)], next := 1 }

example : envSteady.Steady := ⟨fun _ _ _ _ => rfl, fun _ _ _ => rfl, fun _ _ => rfl⟩

-- a load that panics at its first checkpoint: the cached entry survives, the key stays absent
example : (eval envAllFaults 10 st0 (.load ⟨0, "b"⟩ Prog.ret')).2 = .panicked := by decide +kernel
example : (eval envAllFaults 10 st0 (.load ⟨0, "b"⟩ Prog.ret')).1.lookup ⟨0, "a"⟩ = some cell0 :=
  C09_cached_untouched envAllFaults 10 st0 _ ⟨0, "a"⟩ cell0 rfl

-- a reload whose loader panics: hypotheses of the reload theorems are met, the thread goes on
example : (reloadEval envAllFaults 10 st0 ⟨0, "a"⟩).2.1 = .panicked := by decide +kernel
example : ∃ s1, reloadUntyped envAllFaults 10 st0 ⟨0, "a"⟩ = (s1, .done none) :=
  C09_reload_panic_contained envAllFaults 10 st0 ⟨0, "a"⟩ (by decide +kernel)
example : Returns envAllFaults 10 := by
  intro s key; simp [reloadEval, withFrame, eval, envAllFaults]

-- an I/O error instead of a panic (no loader fault, every read fails): the reload fails, nothing changes
example : (reloadEval { envAllFaults with loaderFault := fun _ => none } 10 st0 ⟨0, "a"⟩).2.1 = .err (.io ⟨false, "Other", "x"⟩) := by
  decide +kernel

-- frames: a panicking body inside `no_record` on a recording thread
example : (eval envAllFaults 5 { st0 with recs := [some [.file "q" "s"]] } (.noRecord .panic Prog.ret')).1.recs = [some [.file "q" "s"]] :=
  (C09_frames_popped_exactly envAllFaults 3 _ .panic none (fun s => (s, .panicked))).2.2.1

end AmVerif.Props.C09
