import AmVerif.Lemmas.Map
import AmVerif.Gen.Skel
/-!
# C01 — one stable handle per (id, type), whatever the thread interleaving

**From interleavings to sequences.** Within a phase in which the cache is only shared-borrowed, the
threads issue `get` / `insert` / `contains_key` on the map (that `load`, `get_cached`,
`get_or_insert`, `contains` reduce to exactly these, in this order, is the content of the skeleton
theorems below). Each of the three is ONE atomic step: its whole body runs inside one lock scope of
the key's shard (`skel_get`, `skel_insert`, `skel_contains`: acquire, the map call(s), release —
in particular `insert` is `entry(key).or_insert(entry)` under a single write lock, not a look-up
followed by an insert). Hence every schedule of every number of threads running arbitrary
programs induces a *sequence* of such steps on the shared map, and a statement about all
sequences of `get`/`insert`/`contains` operations is a statement about all interleavings. The
sharded map refines the abstract map for every hasher and shard count (`SMap.refines`), so the
theorems are stated on the abstract map `FMap`.
-/
namespace AmVerif.Props.C01
open AmVerif.Gen AmVerif.Model

/-! ## The effect skeletons the argument rests on (regenerated from the source) -/

/-- `cache::AssetMap::get`: the look-up inside one read-lock scope of the key's shard -/
theorem skel_get : skel_cache_AssetMap_for_AssetMap_get =
    [.call .s_get_shard, .acq .s_read 0, .call .s_get, .try_, .rel 0] := rfl
/-- `cache::AssetMap::insert`: `entry(key).or_insert(entry)` inside one write-lock scope -/
theorem skel_insert : skel_cache_AssetMap_for_AssetMap_insert =
    [.call .s_get_shard, .acq .s_write 0, .call .s_entry, .call .s_or_insert, .rel 0] := rfl
/-- `cache::AssetMap::contains_key`: inside one read-lock scope -/
theorem skel_contains : skel_cache_AssetMap_for_AssetMap_contains_key =
    [.call .s_get_shard, .acq .s_read 0, .call .s_contains_key, .rel 0] := rfl
/-- `local_cache::AssetMap`: the same three under a `RefCell` borrow in place of the lock -/
theorem skel_local_get : skel_local_cache_AssetMap_for_AssetMap_get =
    [.acq .s_borrow 0, .call .s_get, .try_, .rel 0] := rfl
theorem skel_local_insert : skel_local_cache_AssetMap_for_AssetMap_insert =
    [.acq .s_borrow_mut 0, .call .s_entry, .call .s_or_insert, .rel 0] := rfl
theorem skel_local_contains : skel_local_cache_AssetMap_for_AssetMap_contains_key =
    [.acq .s_borrow 0, .call .s_contains_key, .rel 0] := rfl
/-- `load` = look-up; on a miss: load (no map access of its own), `?`, insert. -/
theorem skel_load_entry : skel_anycache_Cache_for_T_load_entry =
    [.call .s_get_cached_entry_inner, .branch [[], [.call .s_add_asset]]] := rfl
/-- `add_asset` = load and record, `?`, the one `insert`. -/
theorem skel_add_asset : skel_anycache_RawCache_add_asset =
    [.call .s_load_and_record, .try_, .call .s_insert] := rfl
/-- `get_cached_entry_inner`: `get` is its only map access, with a reloader (then recorded) or without. -/
theorem skel_get_cached : skel_anycache_Cache_for_T_get_cached_entry_inner =
    [.branch [[.branch [[.call .s_get, .branch [[], []], .call .s_add_record, .ret], []]], []], .call .s_get] := rfl
/-- `get_or_insert` = look-up; on a miss: build the entry, insert. -/
theorem skel_get_or_insert : skel_anycache_CacheExt__get_or_insert =
    [.call .s__get_cached_entry, .branch [[], [.call .s_add_any]], .call .s_downcast_ref_ok] := rfl
/-- `add_any` = the one `insert`. -/
theorem skel_add_any : skel_anycache_CacheExt_add_any =
    [.call .s_insert] := rfl

/-! ## Sequences of atomic map steps without removal (one shared-borrow phase) -/

/-- The operations available through `&self`. -/
def Shared : MOp → Prop
  | .get _ | .insert _ _ | .contains _ => True
  | .remove _ | .clear => False

/-- Run a sequence, returning the final map. -/
def runMap (f : FMap) : List MOp → FMap
  | [] => f
  | op :: ops => runMap (f.step op).1 ops

/-- a shared step leaves the cell of a present key where it is -/
theorem step_preserves (f : FMap) (op : MOp) (hs : Shared op) (k : Key) (c : Cell) (h : f k = some c) :
    (f.step op).1 k = some c := by
  cases op with
  | get k' => exact h
  | contains k' => exact h
  | remove k' => exact absurd hs id
  | clear => exact absurd hs id
  | insert k' c' =>
    simp only [FMap.step]
    cases hk : f k' with
    | some x => exact h
    | none => exact (if_neg fun e => by rw [e, hk] at h; cases h).trans h

/-- **Presence never flips back, and the entry is the very same one**: once a key holds cell `c`
it holds `c` (same address, same value) after any further shared operations by any threads —
however many other entries are inserted meanwhile. -/
theorem C01_presence_monotone (f : FMap) (ops : List MOp) (hs : ∀ op ∈ ops, Shared op)
    (k : Key) (c : Cell) (h : f k = some c) : runMap f ops k = some c := by
  induction ops generalizing f with
  | nil => exact h
  | cons op ops ih =>
    exact ih _ (fun o ho => hs o (List.mem_cons_of_mem _ ho)) (step_preserves f op (hs op List.mem_cons_self) k c h)

/-- What an operation reports about key `k`, if it reports a handle for it. -/
def reported (f : FMap) (op : MOp) (k : Key) : Option Cell :=
  match op with
  | .get k' => if k' = k then f k else none
  | .insert k' _ => if k' = k then (match (f.step op).2 with | .cell c => c | _ => none) else none
  | _ => none

/-- Whatever an operation reports for `k` is what the map holds for `k` right after it. -/
theorem reported_is_stored (f : FMap) (op : MOp) (k : Key) (c : Cell) (h : reported f op k = some c) :
    (f.step op).1 k = some c := by
  cases op with
  | get k' =>
    simp only [reported] at h
    split at h
    · exact h
    · cases h
  | contains k' => cases h
  | remove k' => cases h
  | clear => cases h
  | insert k' c' =>
    simp only [reported] at h
    split at h
    · rename_i e; subst e
      simp only [FMap.step] at h ⊢
      cases hk : f k' with
      | some x => rw [hk] at h; exact hk.trans h
      | none => rw [hk] at h; exact (if_pos rfl).trans h
    · cases h

/-- All handles reported for `k` along a run, in order. -/
def reports (f : FMap) (k : Key) : List MOp → List Cell
  | [] => []
  | op :: ops => (match reported f op k with | some c => [c] | none => []) ++ reports (f.step op).1 k ops

/-- **No dangling handle**: every handle ever returned for `k` during the phase is still the
entry stored for `k` at the end of the phase (so it is valid and readable for as long as the cache
is shared-borrowed). -/
theorem C01_no_dangling (f : FMap) (k : Key) (ops : List MOp) (hs : ∀ op ∈ ops, Shared op) :
    ∀ x ∈ reports f k ops, runMap f ops k = some x := by
  induction ops generalizing f with
  | nil => intro x hx; cases hx
  | cons op ops ih =>
    have hs' : ∀ o ∈ ops, Shared o := fun o ho => hs o (List.mem_cons_of_mem _ ho)
    intro x hx
    simp only [reports, List.mem_append] at hx
    rcases hx with hx | hx
    · split at hx
      · next y hr =>
        cases List.mem_singleton.mp hx
        exact C01_presence_monotone _ ops hs' k x (reported_is_stored f op k x hr)
      · cases hx
    · exact ih _ hs' x hx

/-- from a map that holds `c` for `k`, every handle reported for `k` is `c` -/
theorem reports_all_eq (f : FMap) (k : Key) (c : Cell) (h : f k = some c) (ops : List MOp)
    (hs : ∀ op ∈ ops, Shared op) : ∀ x ∈ reports f k ops, x = c := fun x hx =>
  Option.some.inj ((C01_no_dangling f k ops hs x hx).symm.trans (C01_presence_monotone f ops hs k c h))

/-- **One handle per key**: in any interleaving of shared operations, any two operations that
return a handle for key `k` — `get_cached`, `load`, `get_or_insert`, from any thread, through
any front-end — return the same entry (same address). -/
theorem C01_unique_handle (f : FMap) (k : Key) (ops : List MOp) (hs : ∀ op ∈ ops, Shared op) :
    ∀ x ∈ reports f k ops, ∀ y ∈ reports f k ops, x = y := fun x hx y hy =>
  Option.some.inj ((C01_no_dangling f k ops hs x hx).symm.trans (C01_no_dangling f k ops hs y hy))

/-- **Exactly one winner**: when several threads race to create the entry for an absent key, the
first publish wins (its own cell is stored); every later publish for that key — whoever issues
it — returns the winner's cell, and the loser's cell is never stored or returned. -/
theorem C01_one_winner (f : FMap) (k : Key) (c : Cell) (h : f k = none) (ops : List MOp)
    (hs : ∀ op ∈ ops, Shared op) :
    (f.step (.insert k c)).2 = .cell (some c) ∧
    ∀ x ∈ reports (f.step (.insert k c)).1 k ops, x = c := by
  refine ⟨by simp [FMap.step, h], ?_⟩
  apply reports_all_eq _ k c _ ops hs
  simp [FMap.step, h]

/-- Phases: the same holds between any two removals, since a removal (`&mut self`) cannot overlap
a shared phase; after it a new phase starts from whatever map it left. -/
theorem C01_phases (f : FMap) (k : Key) (phase₁ : List MOp) (excl : MOp) (phase₂ : List MOp)
    (h1 : ∀ op ∈ phase₁, Shared op) (h2 : ∀ op ∈ phase₂, Shared op) :
    (∀ x ∈ reports f k phase₁, ∀ y ∈ reports f k phase₁, x = y) ∧
    (∀ x ∈ reports ((runMap f phase₁).step excl).1 k phase₂, ∀ y ∈ reports ((runMap f phase₁).step excl).1 k phase₂, x = y) :=
  ⟨C01_unique_handle f k phase₁ h1, C01_unique_handle _ k phase₂ h2⟩

/-- The sharded map realises these steps for every seed and shard count. -/
theorem C01_sharded (hash : Key → Nat) (m : SMap) (ops : List MOp) :
    m.run hash ops = (m.abs hash).run ops := SMap.refines hash m ops

/-! Non-vacuity: two racers and a reader on one key. -/
def cA : Cell := ⟨.int 1, false, 0, false, 10⟩
def cB : Cell := ⟨.int 2, false, 0, false, 11⟩
example : reports (fun _ => none) ⟨0, "k"⟩ [.get ⟨0, "k"⟩, .get ⟨0, "k"⟩, .insert ⟨0, "k"⟩ cA, .insert ⟨0, "k"⟩ cB, .get ⟨0, "k"⟩] = [cA, cA, cA] := rfl

end AmVerif.Props.C01
