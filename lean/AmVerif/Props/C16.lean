import AmVerif.Model.Bytes
/-!
# C16 — SharedBytes / SharedString are immutable shared buffers

Statements are about `AmVerif.Model.Bytes`, whose steps are built from the definitions
regenerated from `src/utils/bytes.rs` / `src/utils/string.rs` (`AmVerif.Gen.Bytes`).
Modelled, not proved: the weak memory model (why Release / Acquire suffices is the textbook
argument; `C16_orderings_ok` only checks the extracted orderings against it), the allocator.
-/
namespace AmVerif.Props.C16
open AmVerif.Gen AmVerif.Model AmVerif.Model.Bytes

/-! ## Layouts -/

theorem inner_layout_val : Inner_layout = ⟨32, 8⟩ := by decide

/-- `get_inner_layout len` is the header followed by `len` bytes, no padding, alignment 8; it
panics exactly when that size cannot be rounded up to the alignment within `isize::MAX`. -/
theorem get_inner_layout_eq (len : Nat) :
    SharedBytes_get_inner_layout len =
      if 32 + len + 7 ≤ Layout.isizeMax then some ⟨32 + len, 8⟩ else none := by
  -- a byte slice (alignment 1) needs no padding behind the 32-byte header, and the larger alignment is the
  -- header's 8; the bound is `fromSizeAlign`'s, for rounding the size up to that alignment
  simp only [SharedBytes_get_inner_layout, Layout.extend, inner_layout_val, Layout.paddingNeededFor,
    Layout.fromSizeAlign]
  by_cases h : 32 + len + 7 ≤ Layout.isizeMax <;> simp [h]

/-- The empty inline layout *is* the bare header layout — this is what makes `from_vec` of a
`Vec` without allocation (capacity 0) free its header correctly through the "inline" branch. -/
theorem inline_zero_is_header : SharedBytes_get_inner_layout 0 = some Inner_layout := by decide

/-- **Dealloc layout = alloc layout on every branch.**
`from_slice`: whenever it allocates with layout `l`, `drop_slow` (reading the header it wrote)
frees no `Vec` and deallocates with `l`. `from_vec`: it allocates with the header layout; with a
non-zero capacity `drop_slow` drops the `Vec` and deallocates with the header layout; with capacity
zero (hence length zero) it drops no `Vec` and still deallocates with the header layout. -/
theorem C16_layouts_match :
    (∀ len l, SharedBytes_from_slice_layout len = some l →
      SharedBytes_drop_slow_plan (SharedBytes_from_slice_header len).len
        (SharedBytes_from_slice_header len).capacity = (false, some l)) ∧
    (∀ len cap, cap ≠ 0 →
      SharedBytes_drop_slow_plan (SharedBytes_from_vec_header len cap).len
        (SharedBytes_from_vec_header len cap).capacity = (true, SharedBytes_from_vec_layout)) ∧
    (∀ len, len ≤ 0 →
      SharedBytes_drop_slow_plan (SharedBytes_from_vec_header len 0).len
        (SharedBytes_from_vec_header len 0).capacity = (false, SharedBytes_from_vec_layout)) := by
  refine ⟨?_, ?_, ?_⟩
  · intro len l h
    simp only [SharedBytes_from_slice_layout] at h
    simp [SharedBytes_drop_slow_plan, SharedBytes_from_slice_header, h]
  · intro len cap h
    simp [SharedBytes_drop_slow_plan, SharedBytes_from_vec_header, SharedBytes_from_vec_layout, h]
  · intro len h
    have : len = 0 := by omega
    subst this
    simp [SharedBytes_drop_slow_plan, SharedBytes_from_vec_header, SharedBytes_from_vec_layout,
      inline_zero_is_header]

example : SharedBytes_drop_slow_plan 5 0 = (false, some ⟨37, 8⟩) := by decide +kernel
example : SharedBytes_drop_slow_plan 5 9 = (true, some ⟨32, 8⟩) := by decide +kernel

/-- The header block is large and aligned enough for `Inner` (what `ptr.write(Inner{..})` needs),
and the inline bytes start right behind it (`ptr.add(1)`). -/
theorem C16_header_fits (len : Nat) (l : Layout) (h : SharedBytes_from_slice_layout len = some l) :
    Inner_layout.size + SharedBytes_from_slice_copy len ≤ l.size ∧ l.align = Inner_layout.align := by
  simp only [SharedBytes_from_slice_layout, get_inner_layout_eq] at h
  split at h
  · cases h; simp [inner_layout_val, SharedBytes_from_slice_copy]
  · cases h

/-! ## Orderings and RMW kinds (table lemmas over the extracted facts) -/

/-- `clone` and `drop` are each exactly ONE read-modify-write on `count` (not load + store), an
increment resp. a decrement by one; `drop` goes to `drop_slow` iff it saw 1. -/
theorem C16_single_rmw (c : Nat) :
    SharedBytes_clone c = ((), c + 1) ∧ SharedBytes_drop c = (decide (c = 1), c - 1) ∧
    (bytesAtomics.lookup .clone).map (·.map (·.1)) = some [.fetchAdd] ∧
    (bytesAtomics.lookup .drop).map (·.map (·.1)) = some [.fetchSub] := by
  refine ⟨?_, ?_, by decide, by decide⟩
  · simp [SharedBytes_clone, Atom.fetchAdd]
  · simp only [SharedBytes_drop, Atom.fetchSub]; congr

/-- The textbook requirement for reference counting (Boost / `Arc`): the decrement is at least a
Release; before the memory is freed the last owner performs an Acquire on the same location (a
separate Acquire load in `drop_slow`, or the decrement itself being AcqRel); the increment may be
Relaxed. Checked on the orderings the source has today. -/
def orderingsOk (tbl : List (BytesFn × List (AtomPrim × Ord))) : Bool :=
  match tbl.lookup .clone, tbl.lookup .drop, tbl.lookup .dropSlow with
  | some [(.fetchAdd, _)], some [(.fetchSub, od)], some sync =>
    od.isRelease && (od.isAcquire || sync.any fun p => p.1 == .load && p.2.isAcquire)
  | _, _, _ => false

theorem C16_orderings_ok :
    orderingsOk bytesAtomics = true ∧
    bytesAtomics.lookup .dropSlow = some SharedBytes_drop_slow_sync := by decide

/-- The check is not vacuous: the classic wrong variants are rejected. -/
example : orderingsOk [(.clone, [(.fetchAdd, .Relaxed)]), (.drop, [(.fetchSub, .Relaxed)]), (.dropSlow, [(.load, .Acquire)])] = false := by decide +kernel
example : orderingsOk [(.clone, [(.fetchAdd, .Relaxed)]), (.drop, [(.fetchSub, .Release)]), (.dropSlow, [(.load, .Relaxed)])] = false := by decide +kernel
example : orderingsOk [(.clone, [(.fetchAdd, .Relaxed)]), (.drop, [(.fetchSub, .Release)]), (.dropSlow, [])] = false := by decide +kernel
example : orderingsOk [(.clone, [(.fetchAdd, .Relaxed)]), (.drop, [(.fetchSub, .AcqRel)]), (.dropSlow, [])] = true := by decide +kernel

/-! ## Contents -/

/-- A buffer as a constructor leaves it: live, one owner, no frees, no faults; and what
`drop_slow` will compute from its header agrees with what was allocated. -/
structure WellFormed (o : Obj) : Prop where
  count : o.count = 1
  live : o.hdrLive = true
  frees : o.hdrFrees = 0 ∧ o.vecFrees = 0
  faults : o.faults = []
  lay : (SharedBytes_drop_slow_plan o.len o.capacity).2 = some o.hdrLayout
  vecT : (SharedBytes_drop_slow_plan o.len o.capacity).1 = true →
    o.vecLive = true ∧ o.capacity = o.vecCap ∧ o.data = .vec
  vecF : (SharedBytes_drop_slow_plan o.len o.capacity).1 = false → o.vecLive = false

/-- A header literal whose `drop_slow` plan agrees with what is allocated gives a well-formed buffer. -/
theorem mkObj_wf (lay : Layout) (h : HeaderInit) (mem : List Byte) (vecCap : Nat) (hc : h.count = 1) {b : Bool}
    (hp : SharedBytes_drop_slow_plan h.len h.capacity = (b, some lay)) (hb : b = decide (h.data = .vec ∧ vecCap ≠ 0))
    (hcap : b = true → h.capacity = vecCap) : WellFormed (mkObj lay h mem vecCap) where
  count := hc
  live := rfl
  frees := ⟨rfl, rfl⟩
  faults := rfl
  lay := congrArg Prod.snd hp
  vecT := fun x =>
    have hbt : b = true := (congrArg Prod.fst hp).symm.trans x
    ⟨hb.symm.trans hbt, hcap hbt, (of_decide_eq_true (hb.symm.trans hbt)).1⟩
  vecF := fun x => hb.symm.trans ((congrArg Prod.fst hp).symm.trans x)

/-- A fresh buffer is live whatever its header says, so it dereferences to its `len` first bytes. -/
theorem mkObj_deref (lay : Layout) (h : HeaderInit) (mem : List Byte) (vecCap : Nat) (hlen : h.len = mem.length) :
    (mkObj lay h mem vecCap).deref = some mem := by
  have hd : (mkObj lay h mem vecCap).dataLive = true := by
    show (match h.data with | .inline => true | .vec => decide (h.data = .vec ∧ vecCap ≠ 0) || vecCap == 0) = true
    cases hdat : h.data with
    | inline => rfl
    | vec =>
      by_cases hz : vecCap = 0
      · subst hz; rfl
      · rw [decide_eq_true (⟨rfl, hz⟩ : DataLoc.vec = .vec ∧ vecCap ≠ 0)]; rfl
  unfold Obj.deref
  rw [hd]
  -- `SharedBytes_deref` names the fields `(.ptr, .len)`, so the slice is the first `h.len` bytes of `mem`
  show (if h.len ≤ mem.length then some (mem.take h.len) else none) = some mem
  rw [hlen, if_pos (Nat.le_refl _), List.take_length]

theorem fromSlice_spec (src : List Byte) (o : Obj) (h : fromSlice src = some o) :
    o.deref = some src ∧ WellFormed o := by
  unfold fromSlice at h
  split at h
  · cases h
  · rename_i lay hl
    cases h
    rw [show src.take (SharedBytes_from_slice_copy src.length) = src from List.take_length]
    exact ⟨mkObj_deref _ _ _ _ rfl, mkObj_wf _ _ _ _ rfl (C16_layouts_match.1 _ _ hl) rfl nofun⟩

theorem fromVec_spec (cap : Nat) (src : List Byte) (o : Obj) (h : fromVec cap src = some o) :
    o.deref = some src ∧ WellFormed o := by
  unfold fromVec at h
  split at h
  · rename_i hle
    cases h
    refine ⟨mkObj_deref _ _ _ _ rfl, ?_⟩
    by_cases hc : cap = 0
    · subst hc
      exact mkObj_wf _ _ _ _ rfl (C16_layouts_match.2.2 src.length hle) rfl nofun
    · exact mkObj_wf _ _ _ _ rfl (C16_layouts_match.2.1 src.length cap hc) (decide_eq_true ⟨rfl, hc⟩).symm fun _ => rfl
  · cases h

/-- **Every constructor path dereferences to exactly its input** (slice, `Vec` of any capacity
including 0 and excess, `Box<[u8]>`, both `Cow` arms, iterator), and leaves a well-formed buffer. -/
theorem C16_content (p : BytesSrc) (cap : Nat) (src : List Byte) (o : Obj)
    (h : construct p cap src = some o) : o.deref = some src ∧ WellFormed o := by
  unfold construct at h
  split at h
  · exact fromSlice_spec _ _ h
  · exact fromVec_spec _ _ _ h
  · cases h

/-- The constructors do succeed on everything that can exist in memory: any slice whose length
leaves room for the 32-byte header below `isize::MAX`, any `Vec` (`len ≤ capacity`). Every public
path except `From<&SharedBytes>` (a clone) builds a buffer. -/
theorem C16_constructible (p : BytesSrc) (cap : Nat) (src : List Byte)
    (hp : p ≠ .sharedRef) (hlen : src.length + 39 ≤ Layout.isizeMax) (hcap : src.length ≤ cap) :
    (construct p cap src).isSome = true := by
  have hs : (fromSlice src).isSome = true := by
    simp only [fromSlice, SharedBytes_from_slice_layout, get_inner_layout_eq]
    have : 32 + src.length + 7 ≤ Layout.isizeMax := by omega
    simp [this]
  have hv : ∀ c, src.length ≤ c → (fromVec c src).isSome = true := by
    intro c hc; simp [fromVec, hc, SharedBytes_from_vec_layout]
  have tbl : ∀ q : BytesSrc, q ≠ .sharedRef →
      bytesFrom.lookup q = some .fromSlice ∨ bytesFrom.lookup q = some .fromVec := by
    intro q; cases q <;> decide
  rcases tbl p hp with e | e
  · simpa only [construct, e] using hs
  · simp only [construct, e]
    split
    · exact hv _ (Nat.le_refl _)
    · exact hv _ hcap

example : ((construct .vec 0 []).map (·.deref)) = some (some []) := by decide +kernel
example : ((construct .boxed 99 [1, 2, 3]).map (·.capacity)) = some 3 := by decide +kernel
example : ((construct .cowBorrowed 0 [1, 2, 3]).map (·.hdrLayout)) = some ⟨35, 8⟩ := by decide +kernel

/-! ## Reference counting under every interleaving -/

/-- What never changes after construction. -/
def Frozen (o0 o : Obj) : Prop :=
  o.len = o0.len ∧ o.capacity = o0.capacity ∧ o.data = o0.data ∧ o.mem = o0.mem ∧
  o.hdrLayout = o0.hdrLayout ∧ o.vecCap = o0.vecCap

/-- Allocation state while nothing has been freed yet. -/
def Untouched (o0 o : Obj) : Prop :=
  o.hdrLive = true ∧ o.vecLive = o0.vecLive ∧ o.hdrFrees = 0 ∧ o.vecFrees = 0

/-- The phases of a buffer's life. -/
def Phase (o0 : Obj) (s : Sys) : Prop :=
  -- shared: some handles, nobody in `drop_slow`, `count` = number of live handles
  (s.handles ≠ [] ∧ s.slow = [] ∧ s.obj.count = s.handles.length ∧ Untouched o0 s.obj) ∨
  -- the last owner is in `drop_slow`, before / after its Acquire, nothing freed yet
  (∃ t st, (st = Stage.sync ∨ st = Stage.freeData) ∧ s.handles = [] ∧ s.slow = [(t, st)] ∧
    s.obj.count = 0 ∧ Untouched o0 s.obj) ∨
  -- the data is released, the header not yet
  (∃ t, s.handles = [] ∧ s.slow = [(t, Stage.dealloc)] ∧ s.obj.count = 0 ∧ s.obj.hdrLive = true ∧
    s.obj.vecLive = false ∧ s.obj.hdrFrees = 0 ∧ s.obj.vecFrees = (if o0.vecLive then 1 else 0)) ∨
  -- released: every block freed exactly once
  (s.handles = [] ∧ s.slow = [] ∧ s.obj.hdrLive = false ∧ s.obj.vecLive = false ∧
    s.obj.hdrFrees = 1 ∧ s.obj.vecFrees = (if o0.vecLive then 1 else 0))

structure Inv (o0 : Obj) (s : Sys) : Prop where
  frozen : Frozen o0 s.obj
  faults : s.obj.faults = []
  reads : ∀ r ∈ s.reads, r = o0.deref
  phase : Phase o0 s

theorem hasHandle_nil (s : Sys) (h : Nat) (hn : s.handles = []) : hasHandle s h = false := by
  simp [hasHandle, hn]

theorem ownerOf_nil (s : Sys) (h : Nat) (hn : s.handles = []) : ownerOf s h = none := by
  simp [ownerOf, hn]

theorem inv_init (o : Obj) (t : Tid) (w : WellFormed o) : Inv o (init o t) := by
  refine ⟨⟨rfl, rfl, rfl, rfl, rfl, rfl⟩, w.faults, by simp [init], Or.inl ?_⟩
  simp [init, w.count, Untouched, w.live, w.frees.1, w.frees.2]

/-- while nothing has been freed a handle dereferences to what the constructor left -/
theorem deref_untouched {o0 o : Obj} (w : WellFormed o0) (fr : Frozen o0 o) (hu : Untouched o0 o) : o.deref = o0.deref := by
  obtain ⟨h1, _, h3, h4, _, h6⟩ := fr
  simp [Obj.deref, Obj.dataLive, Obj.field, SharedBytes_deref, h1, h3, h4, h6, hu.1, w.live, hu.2.1]

theorem touch_live (o : Obj) (h : o.hdrLive = true) : touchHeader o = o := by
  simp [touchHeader, h]

theorem freeVec_ok (o : Obj) (h1 : o.vecLive = true) (h2 : o.capacity = o.vecCap) (h3 : o.data = .vec) :
    o.freeVec = { o with vecLive := false, vecFrees := o.vecFrees + 1 } := by
  simp [Obj.freeVec, h1, h2, h3]

theorem dealloc_ok (o : Obj) (lay : Layout) (h : o.hdrLive = true) (hl : lay = o.hdrLayout) :
    o.dealloc lay = { o with hdrLive := false, hdrFrees := o.hdrFrees + 1 } := by
  simp [Obj.dealloc, h, hl]

/-! ### `step` case by case -/

/-- A step is enabled when its handle is live, resp. its thread is inside `drop_slow`. -/
def enabled (s : Sys) : Act → Bool
  | .clone h _ | .deref h _ | .move h _ => hasHandle s h
  | .drop h => (ownerOf s h).isSome
  | .cont t => (s.slow.find? (·.1 == t)).isSome

/-- A step that is not enabled is a stutter. -/
theorem step_stutter (s : Sys) (a : Act) (he : enabled s a = false) : step s a = s := by
  cases a with
  | clone h t => simp only [step, show hasHandle s h = false from he, Bool.false_eq_true, if_false]
  | deref h t => simp only [step, show hasHandle s h = false from he, Bool.false_eq_true, if_false]
  | move h t => simp only [step, show hasHandle s h = false from he, Bool.false_eq_true, if_false]
  | drop h => simp only [step, show ownerOf s h = none from Option.not_isSome_iff_eq_none.mp (ne_true_of_eq_false he)]
  | cont t =>
    simp only [step, show s.slow.find? (·.1 == t) = none from Option.not_isSome_iff_eq_none.mp (ne_true_of_eq_false he)]

/-- Without a live handle, only the `cont` of a thread that is inside `drop_slow` moves. -/
theorem step_no_handle (s : Sys) (a : Act) (hn : s.handles = [])
    (hc : ∀ t, a = .cont t → s.slow.find? (·.1 == t) = none) : step s a = s := by
  refine step_stutter s a ?_
  cases a with
  | clone h t => exact hasHandle_nil s h hn
  | deref h t => exact hasHandle_nil s h hn
  | move h t => exact hasHandle_nil s h hn
  | drop h => rw [enabled, ownerOf_nil s h hn]; rfl
  | cont t => rw [enabled, hc t rfl]; rfl

/-- ... so while one thread is inside `drop_slow`, only its own `cont` moves. -/
theorem step_other (s : Sys) (a : Act) {t' : Tid} {st : Stage} (hn : s.handles = []) (hsl : s.slow = [(t', st)])
    (ha : a ≠ .cont t') : step s a = s := by
  refine step_no_handle s a hn fun t e => ?_
  have : t ≠ t' := fun x => ha (by rw [e, x])
  rw [hsl]
  simp only [List.find?_cons, List.find?_nil, beq_eq_false_iff_ne.mpr (Ne.symm this)]

theorem step_clone (s : Sys) (h : Nat) (t : Tid) (hh : hasHandle s h = true) (hl : s.obj.hdrLive = true) :
    step s (.clone h t) = { s with obj := { s.obj with count := s.obj.count + 1 },
                                   handles := s.handles ++ [(s.next, t)], next := s.next + 1 } := by
  simp only [step, hh, if_true, touch_live _ hl, (C16_single_rmw _).1]

theorem step_deref (s : Sys) (h : Nat) (t : Tid) (hh : hasHandle s h = true) :
    step s (.deref h t) = { s with reads := s.obj.deref :: s.reads } := by
  simp only [step, hh, if_true]

theorem step_move (s : Sys) (h : Nat) (t : Tid) (hh : hasHandle s h = true) :
    step s (.move h t) = { s with handles := s.handles.map fun p => if p.1 == h then (p.1, t) else p } := by
  simp only [step, hh, if_true]

theorem step_drop (s : Sys) (h : Nat) (t : Tid) (ho : ownerOf s h = some t) (hl : s.obj.hdrLive = true)
    (hc : s.obj.count ≠ 0) :
    step s (.drop h) = { s with obj := { s.obj with count := s.obj.count - 1 },
                                handles := s.handles.eraseP (·.1 == h),
                                slow := if s.obj.count = 1 then s.slow ++ [(t, .sync)] else s.slow } := by
  simp only [step, ho, touch_live _ hl, hc, if_false, (C16_single_rmw _).2.1, decide_eq_true_eq]

/-- The owner's handle is in the list, so dropping it shortens the list by one. -/
theorem length_erase_owner (s : Sys) (h : Nat) (t : Tid) (ho : ownerOf s h = some t) :
    (s.handles.eraseP (·.1 == h)).length = s.handles.length - 1 := by
  simp only [ownerOf, Option.map_eq_some_iff] at ho
  obtain ⟨p, hp, _⟩ := ho
  exact List.length_eraseP_of_mem (List.mem_of_find?_eq_some hp) (by simpa using List.find?_some hp)

/-- The three steps of `drop_slow`, for the only thread inside it. -/
theorem step_cont (s : Sys) (t : Tid) (st : Stage) (h : s.slow = [(t, st)]) :
    step s (.cont t) = match st with
      | .sync => { s with obj := touchHeader s.obj, slow := [(t, .freeData)] }
      | .freeData =>
        { s with obj := if (SharedBytes_drop_slow_plan (touchHeader s.obj).len (touchHeader s.obj).capacity).1
                        then (touchHeader s.obj).freeVec else touchHeader s.obj,
                 slow := [(t, .dealloc)] }
      | .dealloc =>
        { s with obj := match (SharedBytes_drop_slow_plan s.obj.len s.obj.capacity).2 with
                        | none => { s.obj with faults := .noLayout :: s.obj.faults }
                        | some lay => s.obj.dealloc lay,
                 slow := [] } := by
  cases st <;>
    simp only [step, h, List.find?_cons, beq_self_eq_true, List.eraseP_cons, List.eraseP_nil, cond_true, List.nil_append]
  -- left: `dealloc`, where the two sides differ only in the auxiliary function each `match` on the planned layout became
  rfl

/-- One-step preservation, phase by phase. -/
theorem inv_step (o0 : Obj) (w : WellFormed o0) (s : Sys) (a : Act) (I : Inv o0 s) :
    Inv o0 (step s a) := by
  have ⟨fr, fl, rd, _⟩ := I
  rcases I.phase with ⟨hne, hs, hc, hu⟩ | ⟨t', st, hst, hn, hsl, hc, hu⟩ | ⟨t', hn, hsl, _, hl, hv, hf1, hf2⟩ | hrel
  · -- shared: some handles, nobody in `drop_slow`
    cases he : enabled s a with
    | false => rw [step_stutter s a he]; exact I
    | true =>
      cases a with
      | cont t => rw [enabled, hs] at he; cases he
      | clone h t =>
        rw [step_clone s h t he hu.1]
        exact ⟨fr, fl, rd, Or.inl ⟨List.append_ne_nil_of_right_ne_nil _ (List.cons_ne_nil _ _), hs,
          by rw [List.length_append]; exact congrArg (· + 1) hc, hu⟩⟩
      | deref h t =>
        rw [step_deref s h t he]
        refine ⟨fr, fl, fun r hr => ?_, I.phase⟩
        rcases List.mem_cons.mp hr with e | e
        · rw [e]; exact deref_untouched w fr hu
        · exact rd r e
      | move h t =>
        rw [step_move s h t he]
        exact ⟨fr, fl, rd, Or.inl ⟨fun e => hne (List.map_eq_nil_iff.mp e), hs, by rw [List.length_map]; exact hc, hu⟩⟩
      | drop h =>
        obtain ⟨t, ho⟩ := Option.isSome_iff_exists.mp he
        have hpos : 0 < s.handles.length := List.length_pos_iff.mpr hne
        have hlen := length_erase_owner s h t ho
        rw [step_drop s h t ho hu.1 (by rw [hc]; exact Nat.ne_of_gt hpos)]
        by_cases h1 : s.obj.count = 1
        · rw [if_pos h1, hs]
          have hnil : s.handles.eraseP (·.1 == h) = [] := List.eq_nil_of_length_eq_zero (by rw [hlen, ← hc, h1])
          exact ⟨fr, fl, rd, Or.inr (Or.inl ⟨t, .sync, Or.inl rfl, hnil, rfl, by rw [h1], hu⟩)⟩
        · rw [if_neg h1]
          -- had the list become empty, this handle would have been the only one
          have hne' : s.handles.eraseP (·.1 == h) ≠ [] := fun e => by
            rw [e, List.length_nil] at hlen
            exact h1 (by rw [hc]; exact Nat.le_antisymm (Nat.le_of_sub_eq_zero hlen.symm) hpos)
          exact ⟨fr, fl, rd, Or.inl ⟨hne', hs, by rw [hlen, hc], hu⟩⟩
  · -- the last owner is in `drop_slow`, nothing freed yet
    by_cases ha : a = .cont t'
    · subst ha
      rw [step_cont s t' st hsl]
      obtain ⟨f1, f2, f3, _, _, f6⟩ := I.frozen
      rcases hst with rfl | rfl
      · simp only [touch_live _ hu.1]
        exact ⟨fr, fl, rd, Or.inr (Or.inl ⟨t', .freeData, Or.inr rfl, hn, rfl, hc, hu⟩)⟩
      · simp only [touch_live _ hu.1]
        rw [f1, f2]
        cases hplan : (SharedBytes_drop_slow_plan o0.len o0.capacity).1 with
        | true =>
          obtain ⟨v1, v2, v3⟩ := w.vecT hplan
          simp only [if_true, freeVec_ok _ (by rw [hu.2.1, v1]) (by rw [f2, f6, v2]) (by rw [f3, v3])]
          exact ⟨fr, fl, rd,
            Or.inr (Or.inr (Or.inl ⟨t', hn, rfl, hc, hu.1, rfl, hu.2.2.1, by rw [v1]; exact congrArg (· + 1) hu.2.2.2⟩))⟩
        | false =>
          simp only [Bool.false_eq_true, if_false]
          exact ⟨fr, fl, rd,
            Or.inr (Or.inr (Or.inl ⟨t', hn, rfl, hc, hu.1, by rw [hu.2.1, w.vecF hplan], hu.2.2.1,
              by rw [w.vecF hplan]; exact hu.2.2.2⟩))⟩
    · rw [step_other s a hn hsl ha]
      exact I
  · -- the data is released, the header not yet
    by_cases ha : a = .cont t'
    · subst ha
      rw [step_cont s t' _ hsl]
      obtain ⟨f1, f2, _, _, f5, _⟩ := I.frozen
      rw [f1, f2, w.lay]
      simp only [dealloc_ok _ _ hl f5.symm]
      exact ⟨fr, fl, rd, Or.inr (Or.inr (Or.inr ⟨hn, rfl, rfl, hv, congrArg (· + 1) hf1, hf2⟩))⟩
    · rw [step_other s a hn hsl ha]
      exact I
  · -- released
    rw [step_no_handle s a hrel.1 fun t _ => by rw [hrel.2.1]; rfl]
    exact I

theorem inv_run (o0 : Obj) (w : WellFormed o0) (s : Sys) (σ : List Act) (I : Inv o0 s) :
    Inv o0 (run s σ) := by
  induction σ generalizing s with
  | nil => exact I
  | cons a as ih => exact ih _ (inv_step o0 w s a I)

/-- Once no handle is left and nobody is inside `drop_slow`, every block has been freed exactly once. -/
theorem Inv.released {o0 : Obj} {s : Sys} (I : Inv o0 s) (hn : s.handles = []) (hs : s.slow = []) :
    s.obj.released = true ∧ s.obj.hdrFrees = 1 ∧ s.obj.vecFrees = (if o0.vecLive then 1 else 0) := by
  rcases I.phase with ⟨hne, _⟩ | ⟨_, _, _, _, hsl, _⟩ | ⟨_, _, hsl, _⟩ | ⟨_, _, h1, h2, h3, h4⟩
  · exact absurd hn hne
  · rw [hs] at hsl; cases hsl
  · rw [hs] at hsl; cases hsl
  · refine ⟨?_, h3, h4⟩
    show (!s.obj.hdrLive && !s.obj.vecLive) = true
    rw [h1, h2]; rfl

/-- **The buffer is released exactly once, after the last handle is dropped, under every
interleaving.** For every construction path, every capacity, every content, and every list of
atomic steps of any number of threads (clones through shared references, derefs, moves of handles
between threads, drops, the three steps of `drop_slow`):
* no fault ever occurs — no access to a freed header or data, no double free, no `dealloc` /
  `Vec::from_raw_parts` with a layout / capacity other than the one allocated, no count underflow;
* every `deref`, through whichever handle, at whatever moment, yields exactly the source bytes;
* while any handle is live, `count` is the number of live handles and nothing has been freed;
* each block is freed at most once; a freed header implies that no handle is left;
* once no handle is left and nobody is inside `drop_slow`, every block has been freed exactly
  once (nothing leaks). -/
theorem C16_freed_once_after_last (p : BytesSrc) (cap : Nat) (src : List Byte) (o : Obj)
    (hc : construct p cap src = some o) (t0 : Tid) (σ : List Act) :
    let s := run (init o t0) σ
    s.obj.faults = [] ∧
    (∀ r ∈ s.reads, r = some src) ∧
    (s.handles ≠ [] → s.obj.count = s.handles.length ∧ s.obj.hdrLive = true ∧
      s.obj.hdrFrees = 0 ∧ s.obj.vecFrees = 0 ∧ s.obj.deref = some src) ∧
    s.obj.hdrFrees ≤ 1 ∧ s.obj.vecFrees ≤ 1 ∧
    (s.obj.hdrLive = false → s.handles = []) ∧
    (s.handles = [] → s.slow = [] →
      s.obj.released = true ∧ s.obj.hdrFrees = 1 ∧ s.obj.vecFrees = (if o.vecLive then 1 else 0)) := by
  intro s
  obtain ⟨hd, w⟩ := C16_content p cap src o hc
  have I : Inv o s := inv_run o w _ σ (inv_init o t0 w)
  have rd : ∀ r ∈ s.reads, r = some src := fun r hr => by rw [I.reads r hr, hd]
  -- the last part is `Inv.released`; the others are read off the phase of the buffer's life
  rcases I.phase with ⟨hne, _, hcnt, hu⟩ | ⟨_, _, _, hn, _, _, hu⟩ | ⟨_, hn, _, _, _, _, h1, h2⟩ | ⟨hn, _, _, _, h1, h2⟩
  · exact ⟨I.faults, rd, fun _ => ⟨hcnt, hu.1, hu.2.2.1, hu.2.2.2, by rw [deref_untouched w I.frozen hu, hd]⟩,
      by rw [hu.2.2.1]; decide, by rw [hu.2.2.2]; decide, fun hf => (by rw [hu.1] at hf; cases hf), I.released⟩
  · exact ⟨I.faults, rd, fun hne => absurd hn hne, by rw [hu.2.2.1]; decide, by rw [hu.2.2.2]; decide, fun _ => hn, I.released⟩
  -- data released, and all released: `h1` is `hdrFrees = 0` resp. `= 1`
  all_goals exact ⟨I.faults, rd, fun hne => absurd hn hne, by rw [h1]; decide, by rw [h2]; split <;> decide, fun _ => hn, I.released⟩

/-- `drop_slow` as seen in `handles` and `slow` -/
theorem cont_slow (s : Sys) (t : Tid) (st : Stage) (h : s.slow = [(t, st)]) :
    (step s (.cont t)).handles = s.handles ∧
    (step s (.cont t)).slow = match st with
      | .sync => [(t, .freeData)] | .freeData => [(t, .dealloc)] | .dealloc => [] := by
  rw [step_cont s t st h]
  cases st <;> exact ⟨rfl, rfl⟩

theorem cont_idle (s : Sys) (t : Tid) (h : s.slow = []) : step s (.cont t) = s :=
  step_stutter s (.cont t) (by rw [enabled, h]; rfl)

/-- Without handles, the thread inside `drop_slow` (if any) is through after three steps; steps
beyond the end are stutters. -/
theorem cont_thrice (s : Sys) (t : Tid) (hn : s.handles = []) (h : s.slow = [] ∨ ∃ st, s.slow = [(t, st)]) :
    (run s [.cont t, .cont t, .cont t]).handles = [] ∧ (run s [.cont t, .cont t, .cont t]).slow = [] := by
  simp only [run]
  rcases h with hs | ⟨st, hsl⟩
  · rw [cont_idle s t hs, cont_idle s t hs, cont_idle s t hs]
    exact ⟨hn, hs⟩
  · have a := cont_slow s t st hsl
    cases st with
    | sync =>
      have b := cont_slow _ t _ a.2
      have c := cont_slow _ t _ b.2
      exact ⟨c.1.trans (b.1.trans (a.1.trans hn)), c.2⟩
    | freeData =>
      have b := cont_slow _ t _ a.2
      rw [cont_idle _ t b.2]
      exact ⟨b.1.trans (a.1.trans hn), b.2⟩
    | dealloc =>
      rw [cont_idle _ t a.2, cont_idle _ t a.2]
      exact ⟨a.1.trans hn, a.2⟩

/-- **The last drop does free**: in every reachable state without live handles, the thread that
performed the last decrement needs at most its three `drop_slow` steps (always enabled, nobody can
interfere) to release every block. -/
theorem C16_last_drop_releases (p : BytesSrc) (cap : Nat) (src : List Byte) (o : Obj)
    (hc : construct p cap src = some o) (t0 : Tid) (σ : List Act)
    (hn : (run (init o t0) σ).handles = []) :
    ∃ t, (run (run (init o t0) σ) [.cont t, .cont t, .cont t]).obj.released = true := by
  obtain ⟨_, w⟩ := C16_content p cap src o hc
  have I : Inv o (run (init o t0) σ) := inv_run o w _ σ (inv_init o t0 w)
  generalize run (init o t0) σ = s at hn I
  obtain ⟨t, ht⟩ : ∃ t, s.slow = [] ∨ ∃ st, s.slow = [(t, st)] := by
    rcases I.phase with ⟨hne, _⟩ | ⟨t, st, _, _, hsl, _⟩ | ⟨t, _, hsl, _⟩ | ⟨_, hs, _⟩
    · exact absurd hn hne
    · exact ⟨t, Or.inr ⟨st, hsl⟩⟩
    · exact ⟨t, Or.inr ⟨_, hsl⟩⟩
    · exact ⟨0, Or.inl hs⟩
  obtain ⟨h1, h2⟩ := cont_thrice s t hn ht
  exact ⟨t, ((inv_run o w s _ I).released h1 h2).1⟩

/-! Non-vacuity: concrete executions (three threads; the clone is made on thread 7, moved to thread 3 and
dropped there last, so thread 3 runs `drop_slow`). -/
def demo (p : BytesSrc) (cap : Nat) (src : List Byte) (σ : List Act) : Option Sys :=
  (construct p cap src).map fun o => run (init o 0) σ

example : ((demo .vec 8 [1, 2, 3] [.clone 0 7, .deref 1 7, .drop 0, .move 1 3, .deref 1 3, .drop 1,
      .cont 3, .cont 3, .cont 3]).map fun s =>
      (s.obj.faults, s.reads, s.obj.hdrFrees, s.obj.vecFrees, s.obj.released)) =
    some ([], [some [1, 2, 3], some [1, 2, 3]], 1, 1, true) := by decide +kernel
example : ((demo .slice 0 [] [.drop 0, .cont 0, .cont 0, .cont 0]).map fun s =>
      (s.obj.faults, s.obj.hdrFrees, s.obj.vecFrees, s.obj.released)) = some ([], 1, 0, true) := by decide +kernel
/-- The ledger does notice a wrong plan: freeing a slice-built buffer through the `Vec` branch. -/
example : ((fromSlice [1, 2]).map fun o => ({ o with capacity := 2 } : Obj).freeVec.faults) =
    some [.vecMismatch] := by decide +kernel

/-! ## SharedString -/

/-- **`from_utf8` accepts exactly the valid UTF-8 byte strings, and keeps the bytes.**
Validity is Lean core's `ByteArray.IsValidUTF8`: being the UTF-8 encoding of a list of Unicode
scalar values. -/
theorem C16_string_from_utf8 (b : List Byte) :
    ((fromUtf8 b).isSome = true ↔ ∃ cs : List Char, toBA b = cs.utf8Encode) ∧
    (∀ s, fromUtf8 b = some s → s = b) := by
  unfold fromUtf8
  constructor
  · constructor
    · intro h
      split at h
      · rename_i hv; obtain ⟨m, hm⟩ := hv; exact ⟨m, hm⟩
      · cases h
    · rintro ⟨m, hm⟩
      have : (toBA b).IsValidUTF8 := ⟨m, hm⟩
      simp [this]
  · intro s h
    split at h
    · cases h; rfl
    · cases h

theorem maxValid_spec (b : List Byte) (n : Nat) :
    (toBA (b.take (maxValid b n))).IsValidUTF8 ∧ maxValid b n ≤ n ∧
    ∀ k, k ≤ n → (toBA (b.take k)).IsValidUTF8 → k ≤ maxValid b n := by
  induction n with
  | zero =>
    refine ⟨?_, Nat.le_refl _, ?_⟩
    · simp only [maxValid, List.take_zero]; exact ⟨[], rfl⟩
    · intro k hk _; simpa [maxValid] using hk
  | succ n ih =>
    by_cases hv : (toBA (b.take (n + 1))).IsValidUTF8
    · have e : maxValid b (n + 1) = n + 1 := by simp only [maxValid]; exact if_pos hv
      rw [e]
      exact ⟨hv, Nat.le_refl _, fun k hk _ => hk⟩
    · have e : maxValid b (n + 1) = maxValid b n := by simp only [maxValid]; exact if_neg hv
      rw [e]
      refine ⟨ih.1, Nat.le_succ_of_le ih.2.1, ?_⟩
      intro k hk hkv
      by_cases e : k = n + 1
      · subst e; exact absurd hkv hv
      · exact ih.2.2 k (by omega) hkv

/-- The position reported on rejection (`Utf8Error::valid_up_to`) is the length of the longest
valid prefix; it is the whole length exactly when the input is accepted. -/
theorem C16_string_valid_up_to (b : List Byte) :
    (toBA (b.take (validUpTo b))).IsValidUTF8 ∧
    (∀ k, k ≤ b.length → (toBA (b.take k)).IsValidUTF8 → k ≤ validUpTo b) ∧
    ((fromUtf8 b).isSome = true ↔ validUpTo b = b.length) := by
  have h := maxValid_spec b b.length
  refine ⟨h.1, h.2.2, ?_⟩
  unfold fromUtf8 validUpTo
  constructor
  · intro hs
    split at hs
    · rename_i hv
      have := h.2.2 b.length (Nat.le_refl _) (by simpa using hv)
      omega
    · cases hs
  · intro he
    have hv := h.1
    rw [he, List.take_length] at hv
    simp [hv]

example : fromUtf8 [0xe2, 0x82, 0xac] = some [0xe2, 0x82, 0xac] := by decide +kernel
example : fromUtf8 [0xe2, 0x82] = none ∧ validUpTo [0x41, 0xe2, 0x82] = 1 := by decide +kernel
example : fromUtf8 [0xed, 0xa0, 0x80] = none ∧ fromUtf8 [0xc0, 0x80] = none ∧
    fromUtf8 [0xf4, 0x90, 0x80, 0x80] = none := by decide +kernel

/-- Every place that builds a `SharedString` without validating is fed the bytes of a `String` /
`&str` parameter, or is the `unsafe fn from_utf8_unchecked` (whose contract is the caller's);
`from_utf8` validates exactly the bytes it wraps; nothing in the crate calls the unchecked
constructor. (Extracted facts.) -/
theorem C16_string_sites :
    (∀ p ∈ stringSites, p.2 ≠ .unknown ∧ (p.2 = .unsafeFn → p.1 = .fromUtf8Unchecked)) ∧
    stringSites.lookup .fromUtf8 = some .validated ∧
    stringSites.lookup .fromString = some .stringBytes ∧
    stringSites.lookup .fromStr = some .strBytes ∧
    stringUncheckedCalls = 0 := by decide

/-! ## Comparison, order, hash -/

theorem lexCmp_eq_iff (a b : List Byte) : lexCmp a b = .eq ↔ a = b := by
  induction a generalizing b with
  | nil => cases b <;> simp [lexCmp]
  | cons x xs ih =>
    cases b with
    | nil => simp [lexCmp]
    | cons y ys =>
      simp only [lexCmp]
      by_cases h1 : x < y
      · simp only [h1, if_true]
        constructor
        · intro h; cases h
        · intro h; cases h; exact absurd h1 (UInt8.lt_irrefl _)
      · by_cases h2 : y < x
        · simp only [h1, h2, if_true, if_false]
          constructor
          · intro h; cases h
          · intro h; cases h; exact absurd h2 (UInt8.lt_irrefl _)
        · have : x = y := UInt8.le_antisymm (UInt8.not_lt.mp h2) (UInt8.not_lt.mp h1)
          simp [ih, this]

theorem lexCmp_swap (a b : List Byte) : (lexCmp a b).swap = lexCmp b a := by
  induction a generalizing b with
  | nil => cases b <;> simp [lexCmp]
  | cons x xs ih =>
    cases b with
    | nil => simp [lexCmp]
    | cons y ys =>
      simp only [lexCmp]
      by_cases h1 : x < y
      · have h2 : ¬ y < x := UInt8.not_lt.mpr (UInt8.le_of_lt h1)
        simp [h1, h2]
      · by_cases h2 : y < x
        · simp [h1, h2]
        · simp [h1, h2, ih]

/-- **Both types compare, order and hash like the slices they hold**: every `==`, `cmp`,
`partial_cmp` and `hash` impl between two values of the type works on the dereferenced slices
(directly, or through another listed impl) — extracted facts; and the slice order the model uses
is the lexicographic one: `Equal` exactly on equal contents, antisymmetric. -/
theorem C16_cmp_like_slices :
    (∀ p ∈ bytesCmp, p.2 ≠ .other) ∧ (∀ p ∈ stringCmp, p.2 ≠ .other) ∧
    (∀ i : CmpImpl, (bytesCmp.lookup i).isSome ∧ (stringCmp.lookup i).isSome) ∧
    (∀ a b, lexCmp a b = .eq ↔ a = b) ∧ (∀ a b, (lexCmp a b).swap = lexCmp b a) := by
  refine ⟨by decide, by decide, ?_, lexCmp_eq_iff, lexCmp_swap⟩
  intro i; cases i <;> decide

example : lexCmp [1, 2] [1, 2, 0] = .lt ∧ lexCmp [2] [1, 255] = .gt ∧ lexCmp [] [] = .eq := by decide +kernel

end AmVerif.Props.C16
