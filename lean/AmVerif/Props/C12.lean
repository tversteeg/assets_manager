import AmVerif.Lemmas.Watch
/-!
# C12 — filesystem notifications name the right entries (inverse of `path_of`)

Everything is about `AmVerif.Model.Watch` — the definitions the driver `amdrv-watch` executes — whose
decision tables (`Gen.watchTable`, `Gen.compTable`, `Gen.idShape`, `Gen.idLoopOverStrippedParent`) are
regenerated from `src/hot_reloading/watcher.rs` on every run.

`C12_root_stmt`, `C12_table_stmt` (for every kind), `C12_expressible_stmt` and
`C12_detour_events_stmt` are the statements that fail on a watcher with one of the defects
F-C12a–e, as does the oracle of the `watch` engine.
-/
namespace AmVerif.Props.C12
open AmVerif.Gen AmVerif.Model.Watch

/-! ## Valid entries -/

/-- A valid id segment / file name stem: non-empty, no dot, no path separator. -/
def ValidSeg (s : List Char) : Prop := s ≠ [] ∧ '.' ∉ s ∧ '/' ∉ s

def ValidExt (x : List Char) : Prop := '.' ∉ x ∧ '/' ∉ x

/-- The entry with parent segments `init`, own name `l`, and extension `ext?` (`none`: a directory). -/
def mkEnt (init : List (List Char)) (l : List Char) : Option (List Char) → Ent
  | none => .dir (joinDot (init ++ [l]))
  | some x => .file (joinDot (init ++ [l])) x

def ValidNonRoot (init : List (List Char)) (l : List Char) (ext? : Option (List Char)) : Prop :=
  (∀ s ∈ init ++ [l], ValidSeg s) ∧ ∀ x, ext? = some x → ValidExt x

/-- Valid entries: the root directory, and every directory / file all of whose segments (and
extension) are valid. No bound on depth or lengths. -/
inductive ValidEnt : Ent → Prop
  | root : ValidEnt (.dir [])
  | nonroot (init l ext?) (h : ValidNonRoot init l ext?) : ValidEnt (mkEnt init l ext?)

/-- File name of the entry's last component. -/
def nameOf (l : List Char) : Option (List Char) → OsName
  | none => ofStr l
  | some x => ofStr l ++ (if x = [] then [] else .ch '.' :: ofStr x)

/-- The path of a non-root entry below `r`. -/
def entPath (r : Path) (init : List (List Char)) (l : List Char) (ext? : Option (List Char)) : Path :=
  r ++ init.map N ++ [.normal (nameOf l ext?)]

def extOf : Option (List Char) → List Char
  | none => []
  | some x => x

/-- What `id_of_path` says about the entry's path when the kind it is given (by the notification,
else by the file system) is `k`: the directory only if the name has no extension (a directory
`f.txt` is not expressible), else the file. -/
def seen (init : List (List Char)) (l : List Char) (ext? : Option (List Char)) (k : Bool) : Option Ent :=
  if k then (if extOf ext? = [] then some (.dir (joinDot (init ++ [l]))) else none)
  else some (.file (joinDot (init ++ [l])) (extOf ext?))

theorem no_slash_joinDot (segs : List (List Char)) (h : ∀ s ∈ segs, ValidSeg s) : '/' ∉ joinDot segs := by
  intro m
  rcases mem_joinDot _ _ m with e | ⟨s, hs, hc⟩
  · exact absurd e (by decide)
  · exact (h s hs).2.2 hc

theorem splitName_nameOf (l : List Char) (ext? : Option (List Char)) (hl : ValidSeg l)
    (hx : ∀ x, ext? = some x → ValidExt x) :
    (splitName (nameOf l ext?)).1 = ofStr l ∧ extOfName (nameOf l ext?) = some (extOf ext?) ∧
      toStr? (nameOf l ext?) = some (l ++ (if extOf ext? = [] then [] else '.' :: extOf ext?)) := by
  cases ext? with
  | none => simp [nameOf, extOf, extOfName, splitName_plain l hl.2.1, toStr?_ofStr]
  | some x =>
    by_cases hx0 : x = []
    · subst hx0; simp [nameOf, extOf, extOfName, splitName_plain l hl.2.1, toStr?_ofStr]
    · have hox : ofStr x ≠ [] := fun e => hx0 ((ofStr_eq_nil x).mp e)
      have hsp := splitName_ext l x hl.1 (hx x rfl).1
      have hwhole : ofStr l ++ OsCh.ch '.' :: ofStr x = ofStr (l ++ '.' :: x) := by simp [ofStr]
      refine ⟨?_, ?_, ?_⟩
      · simp [nameOf, hx0, hsp]
      · simp [nameOf, extOf, extOfName, hx0, hsp, hox, toStr?_ofStr]
      · simp only [nameOf, extOf, hx0, if_false]
        rw [hwhole, toStr?_ofStr]

theorem setExtension_concat_N (q : Path) (l x : List Char) (hl : '.' ∉ l) :
    setExtension (q ++ [N l]) x = q ++ [.normal (nameOf l (some x))] := by
  rw [setExtension, List.getLast?_concat, N]
  dsimp only
  rw [List.dropLast_concat, splitName_plain l hl]
  rfl

/-- `path_of_entry` of a valid non-root entry, computed. -/
theorem pathOf_mk (r : Path) (init l ext?) (h : ValidNonRoot init l ext?) :
    pathOf r (mkEnt init l ext?) = some (entPath r init l ext?) := by
  have hsl := no_slash_joinDot _ h.1
  have hl : ValidSeg l := h.1 l (List.mem_append_right _ (List.mem_singleton.mpr rfl))
  -- the id splits into the segments again, each pushed as one component
  have hpath : (splitDot (joinDot (init ++ [l]))).foldl pushSeg r = r ++ init.map N ++ [N l] := by
    rw [splitDot_joinDot _ (List.append_ne_nil_of_right_ne_nil _ (List.cons_ne_nil _ _)) fun w hw => (h.1 w hw).2.1,
      foldl_pushSeg _ _ fun w hw => (h.1 w hw).1, List.map_append, ← List.append_assoc]
    rfl
  cases ext? with
  | none => rw [mkEnt, pathOf, if_neg hsl, hpath]; rfl
  | some x =>
    rw [mkEnt, pathOf, if_neg (not_or.mpr ⟨hsl, (h.2 x rfl).2⟩), hpath, setExtension_concat_N _ l x hl.2.1]
    rfl

/-- The last step of `id_of_path` on the name of a valid entry, whatever kind it is told. -/
theorem lastStep_nameOf (init l ext?) (h : ValidNonRoot init l ext?) (k : Bool) :
    lastStep (joinDot init) (nameOf l ext?) k = seen init l ext? k := by
  have hl : ValidSeg l := h.1 l (List.mem_append_right _ (List.mem_singleton.mpr rfl))
  obtain ⟨hstem, hext, hwhole⟩ := splitName_nameOf l ext? hl h.2
  have hpush := push_join init l (fun s hs => (h.1 s (List.mem_append_left _ hs)).1) hl.2.1
  unfold lastStep seen
  cases k with
  | false => rw [if_neg Bool.false_ne_true, if_neg Bool.false_ne_true, hstem, toStr?_ofStr, hext, Option.bind_some, hpush]; rfl
  | true =>
    rw [if_pos rfl, if_pos rfl, hwhole, Option.bind_some]
    by_cases hx : extOf ext? = []
    · rw [if_pos hx, if_pos hx, List.append_nil, hpush]; rfl
    · -- told "directory", the whole name `l.x` is the segment to push: it has a dot, which the builder refuses
      rw [if_neg hx, if_neg hx, push, if_pos (List.mem_append_right _ List.mem_cons_self)]; rfl

/-- `id_of_path` on the path of a valid non-root entry, whatever kind it is told. -/
theorem idOfPath_entry (r : Path) (init l ext?) (h : ValidNonRoot init l ext?) (hint : Option Bool) (d : Bool) :
    idOfPath r (entPath r init l ext?) hint d = seen init l ext? (hint.getD d) := by
  unfold entPath
  rw [idOfPath_under, runComps_segs_nil init (fun s hs => (h.1 s (List.mem_append_left _ hs)).1)
    fun s hs => (h.1 s (List.mem_append_left _ hs)).2.1]
  exact lastStep_nameOf init l ext? h _

theorem seen_isNone (init l ext?) : seen init l ext? ext?.isNone = some (mkEnt init l ext?) := by
  cases ext? <;> simp [seen, mkEnt, extOf]

theorem seen_kind (init l ext?) (hx : ∀ x, ext? = some x → x ≠ [] ∨ True) :
    seen init l ext? ext?.isNone = some (mkEnt init l ext?) :=
  seen_isNone init l ext?

theorem seen_id {init : List (List Char)} {l : List Char} {ext? : Option (List Char)} {k : Bool} {e : Ent}
    (h : seen init l ext? k = some e) : e.id = joinDot (init ++ [l]) := by
  unfold seen at h
  cases k with
  | false => rw [if_neg Bool.false_ne_true] at h; cases h; rfl
  | true =>
    rw [if_pos rfl] at h
    by_cases hx : extOf ext? = []
    · rw [if_pos hx] at h; cases h; rfl
    · rw [if_neg hx] at h; cases h

/-! ## Round trip and injectivity -/

theorem pathOf_root (r : Path) : pathOf r (.dir []) = some r := by
  simp [pathOf, splitDot, pushSeg]

/-- **C12_roundtrip.** Under every root, `id_of_path` inverts `path_of` on every valid entry —
the root directory itself, and every file / directory at any depth, with or without extension —
when the kind it is told (by the notification, else by the file system) is the entry's. -/
theorem C12_roundtrip (r : Path) (e : Ent) (h : ValidEnt e) (hint : Option Bool) (d : Bool)
    (hk : hint.getD d = e.isDir) :
    ∃ p, pathOf r e = some p ∧ idOfPath r p hint d = some e := by
  cases h with
  | root => exact ⟨r, pathOf_root r, idOfPath_root r hint d⟩
  | nonroot init l ext? hv =>
    refine ⟨_, pathOf_mk r init l ext? hv, ?_⟩
    rw [idOfPath_entry r init l ext? hv, hk]
    cases ext? <;> exact seen_isNone _ _ _

example : ValidEnt (mkEnt [['d']] ['f'] (some ['t', 'x', 't'])) :=
  .nonroot _ _ _ ⟨by simp [ValidSeg], by simp [ValidExt]⟩

/-- **C12_injective.** Two valid files, or two valid directories, with the same path under one root
are the same entry. (A file without extension and a directory *can* share a path.) -/
theorem C12_injective (r p : Path) (e₁ e₂ : Ent) (h₁ : ValidEnt e₁) (h₂ : ValidEnt e₂)
    (hk : e₁.isDir = e₂.isDir) (hp₁ : pathOf r e₁ = some p) (hp₂ : pathOf r e₂ = some p) : e₁ = e₂ := by
  obtain ⟨p1, hq1, hi1⟩ := C12_roundtrip r e₁ h₁ none e₁.isDir rfl
  obtain ⟨p2, hq2, hi2⟩ := C12_roundtrip r e₂ h₂ none e₁.isDir (by simpa using hk)
  rw [hp₁] at hq1; rw [hp₂] at hq2
  cases hq1; cases hq2
  exact Option.some.inj (hi1.symm.trans hi2)

/-! ## The root directory (F-C12a) -/

/-- Full strength: the root directory is the directory with the empty id (whatever the
notification and the file system say about its kind). -/
def C12_root_stmt : Prop := ∀ (r : Path) (hint : Option Bool) (d : Bool), idOfPath r r hint d = some (.dir [])

/-- **C12_root** (F-C12a repaired). -/
theorem C12_root : C12_root_stmt := idOfPath_root

/-! ## Detours, foreign paths, inexpressible names -/

theorem idOfPath_nonnormal (r q : Path) (c : Comp) (hint : Option Bool) (d : Bool) (hc : ∀ n, c ≠ .normal n)
    (hne : q ++ [c] ≠ r) : idOfPath r (q ++ [c]) hint d = none := by
  rw [idOfPath_of_ne _ _ _ _ hne]
  have : fileName (q ++ [c]) = none := by
    unfold fileName
    rw [List.getLast?_concat]
    cases c with
    | normal n => exact absurd rfl (hc n)
    | _ => rfl
  rw [this]
  cases parentOf (q ++ [c]) with
  | none => rfl
  | some p => exact bind_bind_eq_none (stripPrefix r p) _ fun _ => rfl

theorem idOfPath_congr_rel (r rel rel' : Path) (c : Comp) (hint : Option Bool) (d : Bool)
    (h : runComps [] rel = runComps [] rel') :
    idOfPath r (r ++ rel ++ [c]) hint d = idOfPath r (r ++ rel' ++ [c]) hint d := by
  by_cases hc : ∃ n, c = .normal n
  · obtain ⟨n, rfl⟩ := hc
    rw [idOfPath_under, idOfPath_under, h]
  · have hc' : ∀ n, c ≠ .normal n := fun n e => hc ⟨n, e⟩
    rw [idOfPath_nonnormal _ _ _ _ _ hc' (under_ne _ _ _), idOfPath_nonnormal _ _ _ _ _ hc' (under_ne _ _ _)]

/-- **C12_dot_components (`.`).** A `.` component anywhere below the root and before the last
component does not change the result. -/
theorem C12_dot_components_cur (r a b : Path) (c : Comp) (hint : Option Bool) (d : Bool) :
    idOfPath r (r ++ (a ++ [.curDir] ++ b) ++ [c]) hint d = idOfPath r (r ++ (a ++ b) ++ [c]) hint d := by
  apply idOfPath_congr_rel
  simp [runComps_append, runComps, compStep_cur]

/-- **C12_dot_components_updown (`x/..`).** A detour through any directory name the builder accepts,
anywhere below the root and before the last component, does not change the result. -/
theorem C12_dot_components_updown (r a b : Path) (x : List Char) (c : Comp) (hint : Option Bool) (d : Bool)
    (hx : '.' ∉ x) (hne : x ≠ []) :
    idOfPath r (r ++ (a ++ [N x, .parentDir] ++ b) ++ [c]) hint d = idOfPath r (r ++ (a ++ b) ++ [c]) hint d := by
  apply idOfPath_congr_rel
  rw [runComps_append, runComps_updown [] a x hx hne, ← runComps_append]

example : idOfPath [.rootDir, N ['r']] ([.rootDir, N ['r']] ++ ([N ['a']] ++ [N ['z'], .parentDir] ++ [N ['b']]) ++ [N ['f']]) none false
    = idOfPath [.rootDir, N ['r']] ([.rootDir, N ['r']] ++ ([N ['a']] ++ [N ['b']]) ++ [N ['f']]) none false :=
  C12_dot_components_updown _ _ _ _ _ _ _ (by decide) (by decide)

/-- **C12_outside_none (foreign path).** A path that does not lie under the root yields nothing. -/
theorem C12_outside_none (r p : Path) (hint : Option Bool) (d : Bool) (h : ¬ r <+: p) : idOfPath r p hint d = none := by
  have hne : p ≠ r := fun e => h (e ▸ List.prefix_refl _)
  rw [idOfPath_of_ne _ _ _ _ hne]
  cases h1 : parentOf p with
  | none => rfl
  | some q =>
    cases h2 : stripPrefix r q with
    | none => simp [h2]
    | some x =>
      exfalso
      obtain ⟨c, hc⟩ := parentOf_eq_some h1
      apply h
      refine ⟨x ++ [c], ?_⟩
      rw [hc, stripPrefix_eq_some h2, List.append_assoc]

/-- A component the id builder cannot take: a prefix / root component below the root, a name that
is not UTF-8, or a name containing a dot. -/
def BadComp : Comp → Prop
  | .pfx | .rootDir => True
  | .normal n => ∀ s, toStr? n = some s → '.' ∈ s
  | _ => False

theorem compStep_bad (c : Comp) (h : BadComp c) (b : Buf) : compStep b c = none := by
  cases c with
  | pfx | rootDir => simp [compStep, Comp.kind, compTable]
  | curDir => cases h
  | parentDir => cases h
  | normal n =>
    simp only [compStep, Comp.kind, compTable]
    cases hs : toStr? n with
    | none => rfl
    | some s => simp [push, h s hs]

/-- **C12_outside_none (inexpressible directory).** A non-UTF-8 or dotted component between the
root and the last component yields nothing, whatever follows it. -/
theorem C12_bad_component_none (r rel : Path) (c last : Comp) (hint : Option Bool) (d : Bool) (hc : c ∈ rel)
    (hbad : BadComp c) : idOfPath r (r ++ rel ++ [last]) hint d = none := by
  by_cases hl : ∃ n, last = .normal n
  · obtain ⟨n, rfl⟩ := hl
    rw [idOfPath_under, runComps_none_of_mem [] rel c hc (compStep_bad c hbad)]
    rfl
  · exact idOfPath_nonnormal _ _ _ _ _ (fun n e => hl ⟨n, e⟩) (under_ne _ _ _)

/-- **C12_outside_none (inexpressible directory name).** Told that the entry is a directory,
`id_of_path` yields nothing for a last component that is not UTF-8 or contains a dot (`a.b`,
`.hidden`, `a.`): the whole name of a directory is its last id segment (F-C12d repaired). -/
theorem C12_bad_last_dir_none (r q : Path) (n : OsName) (hint : Option Bool) (d : Bool)
    (hne : q ++ [.normal n] ≠ r) (hk : hint.getD d = true)
    (h : ∀ s, toStr? n = some s → '.' ∈ s) : idOfPath r (q ++ [.normal n]) hint d = none := by
  rw [idOfPath_normal _ _ _ _ _ hne, hk]
  exact bind_bind_eq_none _ _ fun buf => lastStep_dir_none buf n h

/-- **C12_outside_none (inexpressible file name).** Told that the entry is not a directory,
`id_of_path` yields nothing for a last component whose stem is not UTF-8 or still contains a dot
(`a.b.c`, `.hidden`), or whose extension is empty (`a.`, F-C12d repaired). -/
theorem C12_bad_last_file_none (r q : Path) (n : OsName) (hint : Option Bool) (d : Bool)
    (hne : q ++ [.normal n] ≠ r) (hk : hint.getD d = false)
    (h : (∀ s, toStr? (splitName n).1 = some s → '.' ∈ s) ∨ (splitName n).2 = some []) :
    idOfPath r (q ++ [.normal n]) hint d = none := by
  rw [idOfPath_normal _ _ _ _ _ hne, hk]
  exact bind_bind_eq_none _ _ fun buf => lastStep_file_none buf n h

example : BadComp (.normal [.ch 'a', .bad 255]) := by simp [BadComp, toStr?]
example : BadComp (.normal (ofStr ['a', '.', 'b'])) := by
  intro s hs; rw [toStr?_ofStr] at hs; cases hs; decide

/-! ## The handler keeps its watcher -/

/-- **C12_handler_survives.** While the channel is connected, no event — whatever its kind and
however un-mappable its paths — changes the handler: it keeps its watcher and its roots. -/
theorem C12_handler_survives (h : Handler) (isDir : Path → Bool) (k : EvKind) (ps : List Path) :
    (handleEvent h true isDir k ps).1 = h := by
  induction ps with
  | nil => rfl
  | cons p ps ih =>
    simp only [handleEvent]
    cases watchTable k with
    | ret => rfl
    | act wp hint =>
      by_cases hr : h.roots = [] <;> simp [hr, ih]

/-- The watcher is dropped only by a failed send (disconnected channel). -/
theorem C12_watcher_dropped_only_disconnected (h : Handler) (c : Bool) (isDir : Path → Bool) (k : EvKind)
    (ps : List Path) (hd : (handleEvent h c isDir k ps).1.hasWatcher = false) :
    h.hasWatcher = false ∨ c = false := by
  cases c with
  | false => right; rfl
  | true => left; rw [C12_handler_survives] at hd; exact hd

/-! ## Several roots -/

/-- The members of a batch: under each root, the entry the notified path translates to and — when
the notification changes the parent's listing — the directory of its parent id. -/
theorem C12_multi_roots (roots : List Path) (wp : Bool) (hint : Option Bool) (d : Bool) (p : Path) (e : Ent) :
    e ∈ batchOf roots wp hint d p ↔
      ∃ r ∈ roots, ∃ e₀, idOfPath r p hint d = some e₀ ∧ e ∈ withParentOf wp e₀ := by
  simp only [batchOf, List.mem_flatMap]
  constructor
  · rintro ⟨r, hr, he⟩
    cases h : idOfPath r p hint d with
    | none => simp [h] at he
    | some e₀ => exact ⟨r, hr, e₀, h, by simpa [h] using he⟩
  · rintro ⟨r, hr, e₀, h, he⟩
    exact ⟨r, hr, by simpa [h] using he⟩

theorem batchOf_single (r : Path) (wp : Bool) (hint : Option Bool) (d : Bool) (p : Path) :
    batchOf [r] wp hint d p = match idOfPath r p hint d with
      | none => []
      | some e => withParentOf wp e := by
  simp only [batchOf, List.flatMap_cons, List.flatMap_nil, List.append_nil]
  cases idOfPath r p hint d <;> rfl

/-- Adding roots never loses an event. -/
theorem C12_more_roots_more_events (r : Path) (roots : List Path) (hr : r ∈ roots) (wp : Bool) (hint : Option Bool)
    (d : Bool) (p : Path) (e : Ent) (h : e ∈ batchOf [r] wp hint d p) : e ∈ batchOf roots wp hint d p := by
  rw [C12_multi_roots] at h ⊢
  obtain ⟨r', hr', rest⟩ := h
  simp at hr'; subst hr'
  exact ⟨r', hr, rest⟩

/-- A root under which the path does not lie contributes nothing. -/
theorem C12_foreign_root_silent (r : Path) (wp : Bool) (hint : Option Bool) (d : Bool) (p : Path)
    (h : ¬ r <+: p) : batchOf [r] wp hint d p = [] := by
  rw [batchOf_single, C12_outside_none r p hint d h]

/-! ## The event-kind table -/

/-- Notification kinds of the statement. -/
inductive NKind | create | modify | rename | delete
  deriving DecidableEq, Repr

/-- The `notify` kind of a notification about an entry of the given kind: a deletion tells what
was deleted (`RemoveKind::Folder` / `RemoveKind::File`, as the inotify and FSEvents back ends
do) — the file system cannot be asked any more. -/
def NKind.ev : NKind → (entryIsDir : Bool) → EvKind
  | .create, _ => .create | .modify, _ => .modifyOther | .rename, _ => .modifyName
  | .delete, true => .removeFolder | .delete, false => .removeFile

/-- Creations, renames and deletions change the parent's listing. -/
def NKind.namesParent : NKind → Bool
  | .modify => false | _ => true

theorem parentId_segs (init : List (List Char)) (l : List Char) (h : ∀ s ∈ init ++ [l], ValidSeg s) :
    parentId (joinDot (init ++ [l])) = some (joinDot init) := by
  have hl := h l (List.mem_append_right _ (List.mem_singleton.mpr rfl))
  -- the model writes `DirEntry::parent_id` and `IdBuilder::pop` as the same function
  exact pop_push (joinDot init) l _ hl.1 (push_join init l (fun s hs => (h s (List.mem_append_left _ hs)).1) hl.2.1)

/-- The single message sent for one notified path (connected channel, at least one root). -/
theorem handleEvent_single (r : Path) (w : Bool) (isDir : Path → Bool) (k : EvKind) (p : Path) :
    (handleEvent ⟨[r], w⟩ true isDir k [p]).2 =
      match watchTable k with
      | .ret => []
      | .act wp hint => [batchOf [r] wp hint (isDir p) p] := by
  simp only [handleEvent]
  cases watchTable k with
  | ret => rfl
  | act wp hint => simp

/-- Access and Other notifications are ignored; every other kind is translated. -/
theorem C12_ignored_kinds (k : EvKind) : watchTable k = .ret ↔ (k = .access ∨ k = .other) := by
  cases k <;> simp [watchTable]

/-- The message for an entry that `id_of_path` names `e`: the entry and, if asked for, its parent. -/
def msgOf (wp : Bool) (init : List (List Char)) : Option Ent → List Ent
  | none => []
  | some e => e :: (if wp then [.dir (joinDot init)] else [])

theorem batchOf_entry (r : Path) (init l ext?) (hv : ValidNonRoot init l ext?) (wp : Bool) (hint : Option Bool) (d : Bool) :
    batchOf [r] wp hint d (entPath r init l ext?) = msgOf wp init (seen init l ext? (hint.getD d)) := by
  rw [batchOf_single, idOfPath_entry r init l ext? hv]
  cases hs : seen init l ext? (hint.getD d) with
  | none => rfl
  | some e =>
    dsimp only
    rw [msgOf, withParentOf, seen_id hs, parentId_segs init l hv.1]
    cases wp <;> rfl

/-- **Exact batch** for a notification of each `notify` kind about the path of a valid non-root
entry under a single root, as a function of what the file system says when the event is handled.
Access / Other: nothing. Any / Modify(_) other than a rename: the entry only, with the kind the
file system shows. Create / rename: the entry and its parent directory (`""` for a child of the
root). Remove(File) / Remove(Folder): the entry with the kind the notification gives, and its
parent. Any other Remove: the entry as the file system shows it (a file: it is gone), and its
parent. -/
theorem C12_batch_exact (r : Path) (init l ext?) (hv : ValidNonRoot init l ext?) (isDir : Path → Bool)
    (w : Bool) (k : EvKind) :
    (handleEvent ⟨[r], w⟩ true isDir k [entPath r init l ext?]).2 =
      match k with
      | .access | .other => []
      | .any | .modifyOther => [msgOf false init (seen init l ext? (isDir (entPath r init l ext?)))]
      | .create | .modifyName | .removeOther => [msgOf true init (seen init l ext? (isDir (entPath r init l ext?)))]
      | .removeFile => [msgOf true init (seen init l ext? false)]
      | .removeFolder => [msgOf true init (seen init l ext? true)] := by
  rw [handleEvent_single]
  cases k <;> simp [watchTable, batchOf_entry r init l ext? hv]

/-- What the statement demands: one message, naming exactly the entry (with its kind) and, for
creations, renames and deletions, its parent directory (`dir ""` for children of the root). The
file system shows the entry with its kind — or gone, after a deletion, in which case the
notification tells what it was. -/
def C12_table_stmt (nk : NKind) : Prop :=
  ∀ (r : Path) (init : List (List Char)) (l : List Char) (ext? : Option (List Char))
    (isDir : Path → Bool) (w : Bool),
    ValidNonRoot init l ext? →
    isDir (entPath r init l ext?) = (if nk = .delete then false else ext?.isNone) →
    (handleEvent ⟨[r], w⟩ true isDir (nk.ev ext?.isNone) [entPath r init l ext?]).2 =
      [mkEnt init l ext? :: (if nk.namesParent then [Ent.dir (joinDot init)] else [])]

/-- **C12_table: full strength, every kind, every depth** (F-C12a: the parent of a child of the
root is the root; F-C12b: a deletion names the entry, with the kind the notification gives;
F-C12c: a rename names the parent). -/
theorem C12_table (nk : NKind) : C12_table_stmt nk := by
  intro r init l ext? isDir w hv hP
  have hmsg : msgOf nk.namesParent init (seen init l ext? ext?.isNone) =
      mkEnt init l ext? :: (if nk.namesParent then [Ent.dir (joinDot init)] else []) := by rw [seen_isNone]; rfl
  rw [C12_batch_exact r init l ext? hv, ← hmsg]
  -- the kind `id_of_path` is told is the entry's: by the file system (`hP`), for a deletion by the notification
  cases nk with
  | delete => cases ext? <;> rfl
  | _ => rw [hP]; rfl

/-- The statement's corollary in the form "the entry and its parent are named". -/
theorem C12_table_names (nk : NKind) (r : Path) (init l ext?) (isDir : Path → Bool) (w : Bool)
    (hv : ValidNonRoot init l ext?)
    (hP : isDir (entPath r init l ext?) = (if nk = .delete then false else ext?.isNone)) :
    ∃ batch, (handleEvent ⟨[r], w⟩ true isDir (nk.ev ext?.isNone) [entPath r init l ext?]).2 = [batch] ∧
      mkEnt init l ext? ∈ batch ∧ (nk.namesParent = true → Ent.dir (joinDot init) ∈ batch) := by
  refine ⟨_, C12_table nk r init l ext? isDir w hv hP, by simp, ?_⟩
  intro h; simp [h]

example : C12_table_stmt .delete := C12_table .delete

/-- **The root directory itself**: a notification of any translated kind about the root path
names the directory `""` and nothing else (it has no parent). -/
theorem C12_root_events (r : Path) (isDir : Path → Bool) (w : Bool) (k : EvKind)
    (hk : k ≠ .access ∧ k ≠ .other) :
    (handleEvent ⟨[r], w⟩ true isDir k [r]).2 = [[Ent.dir []]] := by
  rw [handleEvent_single]
  cases h : watchTable k with
  | ret => exact absurd ((C12_ignored_kinds k).mp h) (not_or.mpr hk)
  | act wp hint =>
    dsimp only
    rw [batchOf_single, idOfPath_root]
    cases wp <;> rfl

/-! ## Inexpressible names (F-C12d) -/

/-- Full strength, path side of "exactly the entry whose `path_of` is that path": whatever
`id_of_path` names for a detour-free path below the root is an entry whose `path_of` is that path.
(`std::path` never yields an empty `Normal` component nor one containing the separator.) -/
def C12_expressible_stmt : Prop :=
  ∀ (r : Path) (segs : List (List Char)) (n : OsName) (hint : Option Bool) (d : Bool) (e : Ent),
    (∀ s ∈ segs, s ≠ [] ∧ '/' ∉ s) → n ≠ [] → OsCh.ch '/' ∉ n →
    idOfPath r (r ++ segs.map N ++ [.normal n]) hint d = some e →
    pathOf r e = some (r ++ segs.map N ++ [.normal n])

/-- `rsplit_file_at_dot`: no extension, or a non-empty stem, the last dot, and a dot-free extension. -/
theorem splitName_cases (n : OsName) :
    splitName n = (n, none) ∨
      ∃ b a, b ≠ [] ∧ OsCh.ch '.' ∉ a ∧ n = b ++ OsCh.ch '.' :: a ∧ splitName n = (b, some a) := by
  unfold splitName
  cases h : splitLast (OsCh.ch '.') n with
  | none => exact Or.inl rfl
  | some ba =>
    obtain ⟨b, a⟩ := ba
    obtain ⟨hcat, hdot⟩ := splitLast_eq_some _ _ _ _ h
    by_cases hb : b = []
    · exact Or.inl (if_pos hb)
    · exact Or.inr ⟨b, a, hb, hdot, hcat, if_neg hb⟩

/-- The converse of `splitName_nameOf`: a name whose stem and extension `id_of_path` accepts is
the name of the file with that stem and extension. -/
theorem eq_nameOf {n : OsName} {s x : List Char} (hs : toStr? (splitName n).1 = some s)
    (hx : extOfName n = some x) : n = nameOf s (some x) ∧ '.' ∉ x ∧ (n ≠ [] → s ≠ []) := by
  unfold extOfName at hx
  rcases splitName_cases n with h | ⟨b, a, hb, hdot, hcat, h⟩
  · rw [h] at hs hx
    cases hx
    have hns := toStr?_eq_some n s hs
    exact ⟨hns.trans (List.append_nil _).symm, List.not_mem_nil, fun hn e => hn (by rw [hns, e]; rfl)⟩
  · rw [h] at hs hx
    dsimp only at hs hx
    by_cases ha : a = []
    · rw [if_pos ha] at hx; cases hx
    · rw [if_neg ha] at hx
      have hax := toStr?_eq_some a x hx
      have hxne : x ≠ [] := fun e => ha (by rw [hax, e]; rfl)
      have hbs := toStr?_eq_some b s hs
      refine ⟨?_, fun m => hdot (hax ▸ (mem_ofStr _ _).mpr m), fun _ e => hb (by rw [hbs, e]; rfl)⟩
      rw [nameOf, if_neg hxne, hcat, hbs, hax]

theorem mem_nameOf_left {c : Char} {l : List Char} (ext? : Option (List Char)) (h : c ∈ l) : OsCh.ch c ∈ nameOf l ext? := by
  cases ext? with
  | none => exact (mem_ofStr c l).mpr h
  | some x => exact List.mem_append_left _ ((mem_ofStr c l).mpr h)

theorem mem_nameOf_ext {c : Char} (l : List Char) {x : List Char} (h : c ∈ x) : OsCh.ch c ∈ nameOf l (some x) := by
  apply List.mem_append_right
  rw [if_neg (List.ne_nil_of_mem h)]
  exact List.mem_cons_of_mem _ ((mem_ofStr c x).mpr h)

/-- A name `nameOf l ext?` made of units `std::path` can yield, below dot-free segments: if the
builder takes `l`, the entry is valid, so `pathOf_mk` gives its path back. -/
theorem pathOf_of_push (r : Path) (segs : List (List Char)) (hsegs : ∀ s ∈ segs, s ≠ [] ∧ '/' ∉ s)
    (hdf : ∀ s ∈ segs, '.' ∉ s) (l : List Char) (ext? : Option (List Char)) (id : List Char)
    (hslash : OsCh.ch '/' ∉ nameOf l ext?) (hlne : l ≠ []) (hxd : ∀ x, ext? = some x → '.' ∉ x)
    (hp : push (joinDot segs) l = some id) :
    id = joinDot (segs ++ [l]) ∧ pathOf r (mkEnt segs l ext?) = some (entPath r segs l ext?) := by
  have hld : '.' ∉ l := fun m => by rw [push, if_pos m] at hp; cases hp
  have hv : ValidNonRoot segs l ext? := by
    refine ⟨fun s hs => ?_, fun x hx => ⟨hxd x hx, fun m => hslash (hx ▸ mem_nameOf_ext l m)⟩⟩
    rcases List.mem_append.mp hs with h | h
    · exact ⟨(hsegs s h).1, hdf s h, (hsegs s h).2⟩
    · rw [List.mem_singleton.mp h]; exact ⟨hlne, hld, fun m => hslash (mem_nameOf_left ext? m)⟩
  rw [push_join segs l (fun s hs => (hsegs s hs).1) hld] at hp
  cases hp
  exact ⟨rfl, pathOf_mk r segs l ext? hv⟩

/-- **C12_expressible** (F-C12d repaired). -/
theorem C12_expressible : C12_expressible_stmt := by
  intro r segs n hint d e hsegs hn hslash hid
  rw [idOfPath_under] at hid
  cases hrun : runComps [] (segs.map N) with
  | none => rw [hrun] at hid; cases hid
  | some buf =>
    have hdf := dotfree_of_runComps [] buf segs hrun
    rw [runComps_segs_nil segs (fun s hs => (hsegs s hs).1) hdf, Option.bind_some] at hid
    cases hk : hint.getD d with
    | true =>
      -- a directory: the whole name is the last segment
      rw [hk] at hid
      obtain ⟨s, id, hs, hp, rfl⟩ := lastStep_dir_eq_some hid
      cases toStr?_eq_some n s hs
      obtain ⟨rfl, h⟩ := pathOf_of_push r segs hsegs hdf s none id hslash (fun e => hn (by rw [e]; rfl))
        (fun _ h => nomatch h) hp
      exact h
    | false =>
      -- a file: the stem `s` and the extension `x` were accepted, so `n` is the name of the file entry `s`, `x`
      rw [hk] at hid
      obtain ⟨s, id, x, hs, hp, hx, rfl⟩ := lastStep_file_eq_some hid
      obtain ⟨rfl, hxd, hne⟩ := eq_nameOf hs hx
      obtain ⟨rfl, h⟩ := pathOf_of_push r segs hsegs hdf s (some x) id hslash (hne hn) (fun _ h => by cases h; exact hxd) hp
      exact h

/-- A directory `a.b` is not reported at all (not as the directory `a`), nor is a file `a.`. -/
example : idOfPath [.rootDir, N ['r']] ([.rootDir, N ['r']] ++ [.normal (ofStr ['a', '.', 'b'])]) none true = none ∧
    idOfPath [.rootDir, N ['r']] ([.rootDir, N ['r']] ++ [.normal (ofStr ['a', '.'])]) none false = none := by decide +kernel

/-! ## Detours at the event level (F-C12e) -/

/-- Full strength, event level of `C12_dot_components`: a detour `x/..` in the reported path —
also directly before its last component — does not change the events, provided the file system
resolves the detour. -/
def C12_detour_events_stmt : Prop :=
  ∀ (r a : Path) (x : List Char) (n : OsName) (isDir : Path → Bool) (w : Bool) (k : EvKind),
    '.' ∉ x → x ≠ [] →
    isDir (r ++ a ++ [N x, .parentDir] ++ [.normal n]) = isDir (r ++ a ++ [.normal n]) →
    (handleEvent ⟨[r], w⟩ true isDir k [r ++ a ++ [N x, .parentDir] ++ [.normal n]]).2 =
      (handleEvent ⟨[r], w⟩ true isDir k [r ++ a ++ [.normal n]]).2

/-- **C12_detour_events** (F-C12e repaired: the parent directory is the one of the entry's id,
not `Path::parent()` of the notified path). -/
theorem C12_detour_events : C12_detour_events_stmt := by
  intro r a x n isDir w k hx hne hd
  rw [handleEvent_single, handleEvent_single]
  cases watchTable k with
  | ret => rfl
  | act wp hint =>
    dsimp only
    -- the batch depends on the path only through `id_of_path` (the parent is that of the entry's id), and the
    -- detour sits at the end of the components its loop runs over, where it leaves the builder as it found it
    rw [batchOf_single, batchOf_single, hd, List.append_assoc r a,
      idOfPath_congr_rel r _ a _ hint _ (runComps_updown [] a x hx hne)]

example : (handleEvent ⟨[[.rootDir, N ['r']]], true⟩ true (fun _ => false) .create
      [[.rootDir, N ['r'], N ['d'], N ['z'], .parentDir, .normal (ofStr ['f'])]]).2 =
    [[.file ['d', '.', 'f'] [], .dir ['d']]] := by decide +kernel

/-! ## The tables the theorems rest on, as regenerated from the source -/

/-- The loop of `id_of_path` iterates over the *parent* of the path stripped of the root, its
component table is the one transcribed in `compStep`, and the statements around the loop have the
repaired shape. -/
theorem C12_loop_shape : idLoopOverStrippedParent = true ∧
    compTable .normal = .push ∧ compTable .parentDir = .pop ∧ compTable .curDir = .skip ∧
    compTable .rootDir = .fail ∧ compTable .pfx = .fail ∧
    idShape = ⟨true, true, .whole, .stem, true⟩ := ⟨rfl, rfl, rfl, rfl, rfl, rfl, idShape_eq⟩

/-- The kind table: which notifications name the parent directory too, and which tell the kind of
the entry themselves. -/
theorem C12_kind_table : watchTable .create = .act true none ∧ watchTable .modifyName = .act true none ∧
    watchTable .modifyOther = .act false none ∧ watchTable .any = .act false none ∧
    watchTable .removeFile = .act true (some false) ∧ watchTable .removeFolder = .act true (some true) ∧
    watchTable .removeOther = .act true none := by decide

end AmVerif.Props.C12
