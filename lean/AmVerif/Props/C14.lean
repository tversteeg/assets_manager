import AmVerif.Lemmas.Order
import AmVerif.Gen.Skel
/-!
# C14 — dependencies are attributed to the asset being loaded, and only to it

The thread's recording is a stack of frames (`St.recs`, top first): `record` (one per load of a
reloadable asset in a cache with a reloader) pushes `some []`, `no_record` pushes `none`, a helper
thread starts with an empty stack; each is popped by a drop guard (`CellGuard`). A read or look-up
adds its entry to the TOP frame only, and only if that frame is `some` (`St.record`). The theorems
say what each construct does to the frames *below* it — i.e. to the record of the enclosing asset.
-/
namespace AmVerif.Props.C14
open AmVerif.Gen AmVerif.Model

/-! ## The mechanism, from the source -/

/-- `record` and `no_record` install their frame with `CellGuard::replace` before running the closure;
the guard's `Drop` puts the previous value back (so also on unwinding). -/
theorem skel_record_guards :
    skel_hot_reloading_records_record = [.closure [.call .s_replace, .call .s_f], .call .s_with] ∧
    skel_hot_reloading_records_no_record = [.closure [.call .s_replace, .call .s_f], .call .s_with] ∧
    skel_hot_reloading_records_CellGuard_replace = [.call .s_replace] ∧
    skel_hot_reloading_records_Drop_for_CellGuard_drop = [.call .s_set] := ⟨rfl, rfl, rfl, rfl⟩

/-- A look-up records the asset whether or not it is cached (before returning), `load_owned` records
it before loading, and `load_and_record` runs the loader inside `record` and then either registers
the asset or hands the failed load's reads to the enclosing record. -/
theorem skel_lookups_record :
    skel_anycache_Cache_for_T_get_cached_entry_inner =
      [.branch [[.branch [[.call .s_get, .branch [[], []], .call .s_add_record, .ret], []]], []], .call .s_get] ∧
    skel_anycache_Cache_for_T_load_owned_entry = [.branch [[.branch [[.call .s_add_record], []]], []], .call .s_load_and_record] ∧
    skel_asset_load_and_record = [.branch [[.branch [[.call .s_record, .branch [[.call .s_add_asset], [.call .s_add_records]], .ret], []]], []]] ∧
    skel_hot_reloading_records_add_record = [.closure [.call .s_get, .branch [[.call .s_insert_asset], []]], .call .s_with] :=
  ⟨rfl, rfl, rfl, rfl⟩

/-- A read or look-up touches the top frame only, and only if it is recording. -/
theorem C14_record_top_only (s : St) (d : Dep) :
    (s.record true d).recs =
      match s.recs with
      | some ds :: rest => some (depInsert d ds) :: rest
      | other => other := by
  unfold St.record
  simp only [if_true]
  cases h : s.recs with
  | nil => simp [h]
  | cons x rest => cases x <;> simp [h]

/-- Nothing is recorded while recording is off for this cache / type. -/
theorem C14_record_off (s : St) (d : Dep) : s.record false d = s := rfl

/-! ## What each construct leaves in the enclosing record -/

/-- **`no_record`**: whatever the closure does — reads, loads of any depth, errors, panics, fuel
exhaustion — the enclosing frames (in particular the record of the asset being loaded) are exactly
what they were: nothing read inside is attributed to it, and recording resumes afterwards. -/
theorem C14_no_record_isolated (body : St → St × Outcome) (s : St) :
    (withFrame true none body s).1.recs = s.recs := withFrame_restores none body s

/-- **Nested load of a reloadable asset** (hot type, cache with reloader): its reads go to its own
frame. On success — and on panic — the enclosing record is exactly what it was before the nested
load ran (the outer asset depends on the nested asset, recorded by the look-up, not on its files). -/
theorem C14_nested_hot_isolated (env : Env) (body : St → St × Outcome) (key : Key) (s : St)
    (hhot : recordsAsset (env.types key.ty).hot env.hasReloader = true)
    (hnoerr : ∀ e, (loadAndRecord env body key s).2 ≠ .err e) :
    (loadAndRecord env body key s).1.recs = s.recs := by
  rw [loadAndRecord_hot env body key s hhot] at hnoerr ⊢
  generalize body s.enter = r at hnoerr ⊢
  obtain ⟨sb, o⟩ := r
  cases o with
  | err e => exact absurd rfl (hnoerr _)
  | _ => rfl

/-- …and the dependency set registered with the reloader for the nested asset is exactly what its
own frame collected while it was on top. -/
theorem C14_registered_is_own_frame (env : Env) (body : St → St × Outcome) (key : Key) (s : St) (v : Val)
    (hhot : recordsAsset (env.types key.ty).hot env.hasReloader = true)
    (hok : (loadAndRecord env body key s).2 = .ok v) :
    (loadAndRecord env body key s).1.out =
      (withFrame true (some []) body s).1.out ++ [.addAsset key (withFrame true (some []) body s).2.2] := by
  rw [loadAndRecord_hot env body key s hhot] at hok ⊢
  show _ = (body s.enter).1.out ++ [.addAsset key (body s.enter).1.top]
  generalize body s.enter = r at hok ⊢
  obtain ⟨sb, o⟩ := r
  cases o with
  | ok v' => rfl
  | _ => cases hok

/-- When the nested load FAILS nothing is registered for it; what it read is handed to the
enclosing record (so that the enclosing asset is reloaded when the failure can be fixed). -/
theorem C14_failed_nested_goes_to_parent (env : Env) (body : St → St × Outcome) (key : Key) (s : St) (e : LErr)
    (hhot : recordsAsset (env.types key.ty).hot env.hasReloader = true)
    (hcfg : failedLoadRecordsToParent = true)
    (herr : (withFrame true (some []) body s).2.1 = .err e) :
    (loadAndRecord env body key s).1 =
      (withFrame true (some []) body s).1.recordAll true (withFrame true (some []) body s).2.2 ∧
    (loadAndRecord env body key s).1.out = (withFrame true (some []) body s).1.out := by
  rw [loadAndRecord_hot env body key s hhot]
  change (body s.enter).2 = .err e at herr
  show _ = St.recordAll { (body s.enter).1 with recs := s.recs } true (body s.enter).1.top ∧ _ = (body s.enter).1.out
  generalize body s.enter = r at herr ⊢
  obtain ⟨sb, o⟩ := r
  cases herr
  exact ⟨congrArg (fun b => St.recordAll { sb with recs := s.recs } b sb.top) hcfg, St.recordAll_out _ _ _⟩

theorem C14_failed_load_cfg : failedLoadRecordsToParent = true := by decide

/-- **Nested load of a type that is not reloaded** (or any load in a cache without reloader): no
frame is pushed; it runs under the enclosing record, which therefore receives its reads — the
code's design for `HOT_RELOADED = false` types, stated rather than hidden. -/
theorem C14_nested_cold_shares_frame (env : Env) (body : St → St × Outcome) (key : Key) (s : St)
    (hcold : recordsAsset (env.types key.ty).hot env.hasReloader = false) :
    (withFrame (recordsAsset (env.types key.ty).hot env.hasReloader) (some []) body s) = ((body s).1, (body s).2, []) := by
  rw [hcold]; rfl

/-- **Helper thread**: a load issued from another thread during a load runs with that thread's own
(empty) recording; the enclosing record of the spawning thread is exactly what it was. -/
theorem C14_helper_thread_isolated (body : St → St × Outcome) (s : St) :
    (onFreshThread body s).1.recs = s.recs := rfl

/-- …and inside the helper thread nothing is recorded at top level (its stack is empty). -/
theorem C14_helper_thread_records_nothing (s : St) (d : Dep) (on : Bool) :
    ({ s with recs := [] }.record on d).recs = [] := by
  unfold St.record; split <;> rfl

/-- **Recording resumes**: after ANY evaluation — nested loads, `no_record` blocks, helper threads,
to any depth, ending normally, with an error, by panic or by fuel exhaustion — the stack has the
same depth and the same frames below the top; the top frame (the asset being loaded) is still
the top frame and has only grown by what this evaluation recorded for it. -/
theorem C14_resumes (env : Env) (f : Nat) (s : St) (p : Prog) :
    (eval env f s p).1.recs.length = s.recs.length ∧ (eval env f s p).1.recs.tail = s.recs.tail :=
  ⟨(eval_shape env f s p).2, (eval_shape env f s p).1⟩

/-- **`get_or_insert` from inside a loader** goes through the same look-up as `get_cached`
(`_get_cached_entry`): it adds the asset — present or absent — to the top frame if that frame is
recording, and does nothing else to the thread's recording before the loader continues (with the
value found, or with its own value once stored). -/
theorem C14_get_or_insert_records (env : Env) (f : Nat) (s : St) (key : Key) (v : Val) (k : Val → Prog) :
    ∃ s' w, s'.recs = (s.record (recordsAsset (env.types key.ty).hot env.hasReloader) (.asset key)).recs ∧
      eval env (f + 1) s (.getOrInsert key v k) = eval env f s' (k w) := by
  simp only [eval]
  cases (s.record (recordsAsset (env.types key.ty).hot env.hasReloader) (.asset key)).lookup key with
  | some c => exact ⟨(s.record (recordsAsset (env.types key.ty).hot env.hasReloader) (.asset key)).handOut key.ty, c.val, rfl, rfl⟩
  | none => exact ⟨_, v, St.add_recs _ key _ false, rfl⟩

/-- a cache with reloader whose types are all hot-reloaded -/
def exEnvHot : Env :=
  { read := fun _ _ _ => .ok [], readDir := fun _ _ => .ok [],
    types := fun _ => { hot := true, prog := fun _ => .panic }, hasReloader := true }

/-- the loader of a reloadable asset fills a slot: the key is in its record -/
example : (eval exEnvHot 3 { recs := [some []] } (.getOrInsert ⟨0, "a"⟩ (.int 1) .ret)).1.recs = [some [.asset ⟨0, "a"⟩]] := by
  decide +kernel

/-- Top-level calls (outside any load) record nothing and leave the thread's recording empty. -/
theorem C14_top_level_clean (env : Env) (f : Nat) (s : St) (p : Prog) :
    (evalTop env f s p).1.recs = [] := rfl

/-- Reads made through a cache whose reloader is not the one recording, and reads on another
thread, are not recorded: `Record::insert_*` compare the reloader identity (regenerated fact). -/
theorem C14_reloader_identity_checked : recordChecksReloaderIdentity = true := by decide

/-! Non-vacuity: a nested hot load inside a recording frame leaves the outer frame untouched. -/
example : (withFrame true none (fun s => (s.record true (.file "x" "a"), .ok (.int 1)))
    { recs := [some [.file "outer" "s"]] }).1.recs = [some [.file "outer" "s"]] := rfl

/-- Every successful load registers its dependency set with the reloader, empty or not (`HotReloader::add_asset` sends
unconditionally): a key loaded again after a removal gets its OLD dependencies replaced. -/
theorem C14_add_asset_always_sends :
    AmVerif.Gen.skel_hot_reloading_mod_HotReloader_add_asset = [.call .s_AddAsset, .call .s_send] := rfl

/-! ## The registration of a load reaches the reloader before any later event

`handle_events` (and `hot_reload`) drain the channel of `AddAsset` / `Clear` messages FIRST and only
then look the events up in the dependency graph; a load sends its registration before it returns.
So an event sent after the load returned finds the asset's dependencies in the graph (harness probe
`hr.order`). -/

/-- `Graph.insertAsset` never removes a node, and the registered asset and each of its dependencies
have a node afterwards. -/
theorem C14_graph_get_insertAsset_mono (g : Graph) (a : Dep) (deps : List Dep) (d : Dep) :
    ((g.get d).isSome → ((g.insertAsset a deps).get d).isSome) ∧
    (d ∈ deps → ((g.insertAsset a deps).get d).isSome) ∧
    ((g.insertAsset a deps).get a).isSome :=
  have h := AmVerif.Lemmas.TopoGraph.isSome_insertAsset g a deps
  ⟨fun hd => (h d).mpr (Or.inl hd), fun hd => (h d).mpr (Or.inr (Or.inl hd)), (h a).mpr (Or.inr (Or.inr rfl))⟩

/-- **Registration before event, local mode.** A registration `AddAsset key deps` is pending in the
channel — anywhere in it, whatever the other pending messages are (`Clear`, other registrations, a
later registration of the same key with other dependencies). Then `handle_events` keeps every event
on an entry of `deps`: it is in the set of changed entries afterwards. -/
theorem C14_registration_before_event (env : Env) (fuel : Nat) (s : St) (r : RSt) (evs : List Dep)
    (key : Key) (deps : List Dep) (e : Dep)
    (hm : Msg.addAsset key deps ∈ s.out) (he : e ∈ deps) (hd : r.dead = false) (hs : r.static_ = false)
    (hev : e ∈ evs) :
    e ∈ (handleEvents env fuel s r evs).2.toReload := by
  rw [handleEvents_local' env fuel s r evs hd hs]
  exact takeEvents_registered s r evs key deps e hm (Or.inl he) hev

/-- …and **in static mode** (in fact in either mode, dead or not) for the state `handle_events` hands
to `run_update` (`handleEvents_static`: `handleEvents = processMsgs ∘ runUpdate` of `takeEvents`). -/
theorem C14_registration_before_event_static (s : St) (r : RSt) (evs : List Dep)
    (key : Key) (deps : List Dep) (e : Dep)
    (hm : Msg.addAsset key deps ∈ s.out) (he : e ∈ deps) (hev : e ∈ evs) :
    e ∈ (takeEvents s r evs).2.toReload :=
  takeEvents_registered s r evs key deps e hm (Or.inl he) hev

/-- the same for an event on the registered asset itself -/
theorem C14_registration_before_event_self (s : St) (r : RSt) (evs : List Dep) (key : Key) (deps : List Dep)
    (hm : Msg.addAsset key deps ∈ s.out) (hev : Dep.asset key ∈ evs) :
    Dep.asset key ∈ (takeEvents s r evs).2.toReload :=
  takeEvents_registered s r evs key deps (.asset key) hm (Or.inr rfl) hev

/-- **A load, then an event.** `load key` returned a handle for a key that was not cached, of a
reloadable type in a cache with a reloader. Then the channel is exactly: what was pending before,
what nested loads sent, and LAST the registration `AddAsset key deps` of the load itself; and every
entry `d` of that `deps` is kept by the next `handle_events` — under any environment and fuel of the
reloader, from any live reloader state in local mode, whatever the batch of events that contains `d`
(in particular `[d]`), although nothing drained the channel in between. -/
theorem C14_load_then_event (env : Env) (fuel : Nat) (s : St) (key : Key) (addr : Nat) (v : Val)
    (hhot : recordsAsset (env.types key.ty).hot env.hasReloader = true) (hmiss : s.lookup key = none)
    (hres : (step env fuel s (.load key)).2 = .handle addr v) :
    ∃ nested deps, (step env fuel s (.load key)).1.out = s.out ++ nested ++ [.addAsset key deps] ∧
      ∀ (env' : Env) (fuel' : Nat) (r : RSt), r.dead = false → r.static_ = false →
        ∀ d, d ∈ deps → ∀ evs, d ∈ evs →
          d ∈ (handleEvents env' fuel' (step env fuel s (.load key)).1 r evs).2.toReload := by
  obtain ⟨nested, deps, hout⟩ := step_load_out env fuel s key addr v hhot hmiss hres
  refine ⟨nested, deps, hout, fun env' fuel' r hd hs d hdd evs hev => ?_⟩
  refine C14_registration_before_event env' fuel' _ r evs key deps d ?_ hdd hd hs hev
  rw [hout]
  exact List.mem_append_right _ List.mem_cons_self

/-- …and in static mode (either mode): the entry is in the set of changed entries `run_update` starts from. -/
theorem C14_load_then_event_static (env : Env) (fuel : Nat) (s : St) (key : Key) (addr : Nat) (v : Val)
    (hhot : recordsAsset (env.types key.ty).hot env.hasReloader = true) (hmiss : s.lookup key = none)
    (hres : (step env fuel s (.load key)).2 = .handle addr v) :
    ∃ nested deps, (step env fuel s (.load key)).1.out = s.out ++ nested ++ [.addAsset key deps] ∧
      ∀ (r : RSt) d, d ∈ deps → ∀ evs, d ∈ evs →
        d ∈ (takeEvents (step env fuel s (.load key)).1 r evs).2.toReload := by
  obtain ⟨nested, deps, hout⟩ := step_load_out env fuel s key addr v hhot hmiss hres
  refine ⟨nested, deps, hout, fun r d hdd evs hev => ?_⟩
  refine C14_registration_before_event_static _ r evs key deps d ?_ hdd hev
  rw [hout]
  exact List.mem_append_right _ List.mem_cons_self

/-! Non-vacuity: the order is what matters. With the registration pending, `handle_events` (drain,
then filter) keeps the event; a reloader that filtered the event BEFORE draining — `handle_events`
on the state with an empty channel, then `processMsgs` of the real channel — drops it. -/
example : (handleEvents exEnvHot 3 { out := [.addAsset ⟨0, "a"⟩ [.file "n" "s"]] } {} [.file "n" "s"]).2.toReload
    = [.file "n" "s"] := by decide +kernel

example :
    (processMsgs { out := [.addAsset ⟨0, "a"⟩ [.file "n" "s"]] }
      (handleEvents exEnvHot 3 { out := [] } {} [.file "n" "s"]).2).2.toReload = [] := by decide +kernel

/-- …although the swapped reloader does register the asset afterwards: only the order differs -/
example :
    ((processMsgs { out := [.addAsset ⟨0, "a"⟩ [.file "n" "s"]] }
      (handleEvents exEnvHot 3 { out := [] } {} [.file "n" "s"]).2).2.graph.get (.file "n" "s")).isSome = true := by
  decide +kernel

/-- a cache with reloader whose (hot) assets read the file `<id>.s` -/
def exEnvOrder : Env :=
  { read := fun _ _ _ => .ok [], readDir := fun _ _ => .ok [],
    types := fun _ => { hot := true, prog := fun id => .read id "s" (fun _ => .ret (.int 1)) }, hasReloader := true }

/-- `C14_load_then_event` is not vacuous: a load that returns a handle, registers a file, and the
event on that file sent after the load returned is kept without any drain in between. -/
example :
    (step exEnvOrder 5 {} (.load ⟨0, "n"⟩)).2 = .handle 0 (.int 1) ∧
    (step exEnvOrder 5 {} (.load ⟨0, "n"⟩)).1.out = [.addAsset ⟨0, "n"⟩ [.file "n" "s"]] ∧
    (handleEvents exEnvOrder 5 (step exEnvOrder 5 {} (.load ⟨0, "n"⟩)).1 {} [.file "n" "s"]).2.toReload = [.file "n" "s"] := by
  decide +kernel

/-- a `Clear` and a re-registration with other dependencies pending after it do not matter -/
example : (handleEvents exEnvHot 3
    { out := [.addAsset ⟨0, "a"⟩ [.file "n" "s"], .clear, .addAsset ⟨0, "a"⟩ []] } {} [.file "n" "s"]).2.toReload
    = [.file "n" "s"] := by decide +kernel

end AmVerif.Props.C14
