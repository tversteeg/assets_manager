import AmVerif.Gen.TabFacts
import AmVerif.Gen.Skel
import AmVerif.Lemmas.Entry
/-!
# C10 — what is declared non-reloadable is never rewritten

A cache entry is *static* (`Cell.dyn = false`: `EntryStorage::new_static`, no lock, no reload id)
or *dynamic*. The theorems say (1) which entries are static — everything `get_or_insert` creates,
everything of a type that opts out, everything in a cache without reloader — by the regenerated
conditions of `CacheEntry::new` (`Gen.TabCond`), and (2) that no step of the reloader (`reload_untyped`,
a whole update pass, `handle_events`, `hot_reload`, `enhance_hot_reloading`) ever changes a static
entry: same value, same reload id (`NEVER`), same global flag, same address. Hence over every history
of API operations, notifications and reloader passes, with arbitrary edits of the source in between,
a static entry stays stored and unchanged until it is removed with `remove` / `take` / `clear`
(all `&mut self`) — in particular when the same key had been loaded (and registered with the
reloader), removed or cleared before and was re-created by `get_or_insert`.

Loaders may call `get_or_insert` themselves (`Prog.getOrInsert`): a cell created during an evaluation
was created by a load (dynamic iff hot type and reloader) or by a loader's `get_or_insert` (static) —
`C10_loaded_dynamic_iff`; for loaders that never call it every created cell is a `FreshCell`
(`C10_loaded_dynamic_iff_no_insert`).

All theorems quantify over every environment (source, fault plan, type table, constructor), every
fuel, every cache and reloader state (`St`, `RSt`), every loader program.
-/
namespace AmVerif.Props.C10
open AmVerif.Gen AmVerif.Model

/-! ## Concrete instances used by the `example`s below -/

/-- a cache WITH a reloader over a source where every type is hot-reloaded and loads to `n` -/
def exEnv (n : Int) : Env :=
  { read := fun _ _ _ => .ok [], readDir := fun _ _ => .ok [],
    types := fun _ => { hot := true, prog := fun _ => .ret (.int n) }, hasReloader := true }

/-- the same source, type 1 opts out of hot-reloading -/
def exEnvOpt (n : Int) : Env :=
  { exEnv n with types := fun ty => { hot := ty != 1, prog := fun _ => .ret (.int n) } }

/-- the same source in a cache without reloader -/
def exEnvNo (n : Int) : Env := { exEnv n with hasReloader := false }

def exKey : Key := ⟨0, "a"⟩
def exKeyOpt : Key := ⟨1, "a"⟩

/-- load (dynamic, registered with the reloader), remove, re-create with `get_or_insert`, edit the
source (`exEnv 2`), notify, reload: the former witness of F-C10 -/
def exHistory : List (Env × HOp) :=
  [(exEnv 1, .api (.load exKey)), (exEnv 1, .hotReload), (exEnv 1, .api (.remove exKey)),
   (exEnv 1, .api (.getOrInsert exKey (.int 7))),
   (exEnv 2, .notify [.asset exKey]), (exEnv 2, .hotReload)]

/-- the cache after `load; hot_reload; remove; get_or_insert` -/
def exInserted : St × RSt := runH 5 (exHistory.take 4) ({}, {})

/-- the load created a dynamic entry and the reloader knows it (and still does after the removal) -/
example : ((runH 5 (exHistory.take 2) ({}, {})).1.lookup exKey).map (·.dyn) = some true ∧
    ((runH 5 (exHistory.take 2) ({}, {})).2.graph.get (.asset exKey)).map (·.typed) = some true ∧
    (exInserted.2.graph.get (.asset exKey)).map (·.typed) = some true := by
  decide +kernel

/-- a dynamic entry IS rewritten by the same notification (the histories are not trivially inert) -/
example : ((runH 5 [(exEnv 1, .api (.load exKey)), (exEnv 1, .hotReload), (exEnv 2, .notify [.asset exKey]),
    (exEnv 2, .hotReload)] ({}, {})).1.lookup exKey).map (fun c => (c.val, c.rid)) = some (.int 2, 1) := by
  decide +kernel

/-! ## The regenerated conditions this property rests on (`Gen/TabCond.lean`, from the source) -/

/-- `add_any` (the `get_or_insert` path) never creates a dynamic entry. -/
theorem insertedEntryDynamic_cfg : ∀ hot r, insertedEntryDynamic hot r = false := by decide

/-- an entry created by a load is dynamic iff the type is hot-reloaded and the cache has a reloader -/
theorem loadedEntryDynamic_cfg : ∀ hot r, loadedEntryDynamic hot r = (hot && r) := by decide

/-- `reload_untyped` returns before loading anything when the entry is static -/
theorem reloadSkipsStatic_cfg : reloadSkipsStatic = true := by decide

example : insertedEntryDynamic true true = false ∧ loadedEntryDynamic true true = true ∧
    loadedEntryDynamic false true = false ∧ loadedEntryDynamic true false = false := by decide +kernel

/-! ## (a) `get_or_insert` creates static entries -/

/-- The cell `get_or_insert` creates for an absent key is static with reload id `NEVER`, whatever
the type and whether or not the cache has a reloader. -/
theorem C10_get_or_insert_static (env : Env) (fuel : Nat) (s : St) (key : Key) (v : Val)
    (h : s.lookup key = none) :
    (step env fuel s (.getOrInsert key v)).1.lookup key =
        some { val := v, dyn := false, rid := ReloadId_NEVER, flag := false, addr := s.next } ∧
    (step env fuel s (.getOrInsert key v)).2 = .handle s.next v := by
  have hi : insertedCell env key v s.next =
      { val := v, dyn := false, rid := ReloadId_NEVER, flag := false, addr := s.next } := by
    simp only [insertedCell, insertedEntryDynamic_cfg]
  rw [step_getOrInsert_lookup, (step_getOrInsert_eq env fuel s key v).2.2, St.insertKeepFirst_snd, if_pos rfl, h, ← hi]
  exact ⟨rfl, rfl⟩

/-- hot type, cache with reloader: still static -/
example : (step (exEnv 1) 5 {} (.getOrInsert exKey (.int 7))).1.lookup exKey = some ⟨.int 7, false, 0, false, 0⟩ :=
  (C10_get_or_insert_static (exEnv 1) 5 {} exKey (.int 7) rfl).1

/-- every cell `get_or_insert` can create satisfies: static, `NEVER`, flag clear -/
theorem insertedCell_static (env : Env) (key : Key) (v : Val) (addr : Nat) :
    (insertedCell env key v addr).dyn = false ∧ (insertedCell env key v addr).rid = ReloadId_NEVER ∧
    (insertedCell env key v addr).flag = false :=
  ⟨insertedEntryDynamic_cfg (env.types key.ty).hot env.hasReloader, rfl, rfl⟩

example : (insertedCell (exEnv 1) exKey (.int 7) 3).dyn = false := (insertedCell_static (exEnv 1) exKey (.int 7) 3).1

/-! ## (b) which loaded entries are dynamic -/

/-- what is known of a cell created under `env` for key `k` -/
def FreshCell (env : Env) (k : Key) (c : Cell) : Prop :=
  (c.dyn = true ↔ ((env.types k.ty).hot = true ∧ env.hasReloader = true)) ∧
  c.rid = ReloadId_NEVER ∧ c.flag = false

/-- what is known of a cell created by `get_or_insert` (by the API operation or by a loader) -/
def InsertedCell (c : Cell) : Prop := c.dyn = false ∧ c.rid = ReloadId_NEVER ∧ c.flag = false

/-- what is known of a cell created under `env` for key `k` during an evaluation: it was created by a
load (`FreshCell`) or handed to `get_or_insert` by a loader (`InsertedCell`) -/
def CreatedCell (env : Env) (k : Key) (c : Cell) : Prop := FreshCell env k c ∨ InsertedCell c

/-- the cell a load creates is dynamic iff the type is hot-reloaded and the cache has a reloader -/
theorem newCell_dyn (env : Env) (ty : Nat) (v : Val) (addr : Nat) :
    (newCell env ty v addr).dyn = ((env.types ty).hot && env.hasReloader) :=
  loadedEntryDynamic_cfg _ _

theorem newCell_fresh (env : Env) (key : Key) (v : Val) (addr : Nat) : FreshCell env key (newCell env key.ty v addr) :=
  ⟨by rw [newCell_dyn, Bool.and_eq_true], rfl, rfl⟩

theorem newCells_created (env : Env) : NewCellsSat env (CreatedCell env) :=
  ⟨fun key v addr => Or.inl (newCell_fresh env key v addr), fun key v addr => Or.inr (insertedCell_static env key v addr)⟩

/-- in either case: dynamic only if the type is hot-reloaded and the cache has a reloader; reload id
`NEVER`; flag clear -/
theorem CreatedCell.weak {env : Env} {k : Key} {c : Cell} (h : CreatedCell env k c) :
    (c.dyn = true → ((env.types k.ty).hot = true ∧ env.hasReloader = true)) ∧ c.rid = ReloadId_NEVER ∧ c.flag = false := by
  rcases h with h | h
  · exact ⟨h.1.mp, h.2⟩
  · exact ⟨fun hd => Bool.noConfusion (h.1.symm.trans hd), h.2⟩

example : (newCell (exEnv 1) 0 (.int 1) 0).dyn = true ∧ (newCell (exEnvOpt 1) 1 (.int 1) 0).dyn = false ∧
    (newCell (exEnvNo 1) 0 (.int 1) 0).dyn = false := by decide +kernel

/-- A cell created at any depth of any evaluation of any loader was created by a load — then it is
dynamic iff its type is hot-reloaded AND the cache has a reloader — or by a loader's `get_or_insert` —
then it is static; either way it starts with reload id `NEVER` and a clear flag.
(Before loaders could call `get_or_insert` the conclusion was `FreshCell env k c`; that is false now:
`getOrInsert k v` run as a loader program under a hot type in a cache with reloader creates a static
cell, see the `example` below.) -/
theorem C10_loaded_dynamic_iff (env : Env) (fuel : Nat) (s : St) (p : Prog) (k : Key) (c : Cell)
    (hnew : s.lookup k = none) (h : (eval env fuel s p).1.lookup k = some c) : CreatedCell env k c :=
  (eval_added env (CreatedCell env) (newCells_created env) fuel s p).new h hnew

/-- a nested load inside an evaluation creates the entry -/
example : CreatedCell (exEnv 1) exKey ⟨.int 1, true, 0, false, 0⟩ :=
  C10_loaded_dynamic_iff (exEnv 1) 5 {} (.load exKey Prog.ret') exKey _ rfl (by decide +kernel)

/-- the old conclusion is false: a loader's `get_or_insert` creates a static cell of a hot type in a
cache with reloader -/
example : (eval (exEnv 1) 5 {} (.getOrInsert exKey (.int 7) .ret)).1.lookup exKey = some ⟨.int 7, false, 0, false, 0⟩ ∧
    ¬ FreshCell (exEnv 1) exKey ⟨.int 7, false, 0, false, 0⟩ := by
  refine ⟨by decide +kernel, ?_⟩
  intro h
  have := h.1.mpr ⟨rfl, rfl⟩
  cases this

/-- **The former statement, for loaders that do not call `get_or_insert`** (neither the program nor any
loader of the type table — every loader written before `AnyCache::get_or_insert` is used re-entrantly):
a cell created at any depth of the evaluation is dynamic iff its type is hot-reloaded AND the cache has
a reloader; reload id `NEVER`, flag clear. -/
theorem C10_loaded_dynamic_iff_no_insert (env : Env) (henv : env.NoInsert) (fuel : Nat) (s : St) (p : Prog)
    (hp : p.NoInsert) (k : Key) (c : Cell)
    (hnew : s.lookup k = none) (h : (eval env fuel s p).1.lookup k = some c) : FreshCell env k c :=
  (eval_added_noInsert env henv (FreshCell env) (newCell_fresh env) fuel s p hp).new h hnew

theorem exEnv_noInsert (n : Int) : (exEnv n).NoInsert := fun _ _ => Prog.NoInsert.ret _

example : FreshCell (exEnv 1) exKey ⟨.int 1, true, 0, false, 0⟩ :=
  C10_loaded_dynamic_iff_no_insert (exEnv 1) (exEnv_noInsert 1) 5 {} (.load exKey Prog.ret')
    (Prog.NoInsert.load _ _ Prog.NoInsert.ret') exKey _ rfl (by decide +kernel)

/-- …and for the API operation `load` under such a type table -/
theorem C10_load_dynamic_iff_no_insert (env : Env) (henv : env.NoInsert) (fuel : Nat) (s : St) (key k : Key) (c : Cell)
    (hnew : s.lookup k = none) (h : (step env fuel s (.load key)).1.lookup k = some c) : FreshCell env k c := by
  rw [step_load_fst] at h
  -- `Added` looks at the map only: the top-level evaluation may be read as the evaluation from `s` with its stack emptied
  exact (eval_added_noInsert env henv _ (newCell_fresh env) fuel { s with recs := [] } _
    (Prog.NoInsert.load _ _ Prog.NoInsert.ret')).new h hnew

example : FreshCell (exEnvOpt 1) exKeyOpt ⟨.int 1, false, 0, false, 0⟩ :=
  C10_load_dynamic_iff_no_insert (exEnvOpt 1) (fun _ _ => Prog.NoInsert.ret _) 5 {} exKeyOpt exKeyOpt _ rfl (by decide +kernel)

/-- the same for the API operation `load` -/
theorem C10_load_dynamic_iff (env : Env) (fuel : Nat) (s : St) (key k : Key) (c : Cell)
    (hnew : s.lookup k = none) (h : (step env fuel s (.load key)).1.lookup k = some c) : CreatedCell env k c :=
  (step_added env fuel s (.load key) _ (newCells_created env)).new h hnew

/-- hot type with reloader: dynamic; opted-out type, or no reloader: static -/
example : ((step (exEnv 1) 5 {} (.load exKey)).1.lookup exKey).map (·.dyn) = some true ∧
    ((step (exEnvOpt 1) 5 {} (.load exKeyOpt)).1.lookup exKeyOpt).map (·.dyn) = some false ∧
    ((step (exEnvNo 1) 5 {} (.load exKey)).1.lookup exKey).map (·.dyn) = some false := by decide +kernel
example : CreatedCell (exEnvOpt 1) exKeyOpt ⟨.int 1, false, 0, false, 0⟩ :=
  C10_load_dynamic_iff (exEnvOpt 1) 5 {} exKeyOpt exKeyOpt _ rfl (by decide +kernel)

/-- `AllStaticWhen`: in a cache without reloader (`without_hot_reloading`, `LocalAssetCache`, a source
that does not support hot-reloading) every cell that any evaluation adds is static. -/
def AllStaticWhen (env : Env) : Prop :=
  env.hasReloader = false → ∀ fuel s p, Added (fun _ c => c.dyn = false) s (eval env fuel s p).1

/-- in a cache without reloader every created cell is static -/
theorem newCells_static (env : Env) (hr : env.hasReloader = false) : NewCellsSat env (fun _ c => c.dyn = false) :=
  ⟨fun key v addr => (newCell_dyn env key.ty v addr).trans (by rw [hr, Bool.and_false]),
    fun key v addr => (insertedCell_static env key v addr).1⟩

theorem C10_all_static_when (env : Env) : AllStaticWhen env :=
  fun hr fuel s p => eval_added env _ (newCells_static env hr) fuel s p

example : (exEnvNo 1).hasReloader = false ∧
    ((eval (exEnvNo 1) 5 {} (.load exKey Prog.ret')).1.lookup exKey).map (·.dyn) = some false := by decide +kernel

/-- every cell of a type that opts out of hot-reloading is created static, in every cache -/
theorem C10_opted_out_static (env : Env) (fuel : Nat) (s : St) (p : Prog) :
    Added (fun k c => (env.types k.ty).hot = false → c.dyn = false) s (eval env fuel s p).1 := by
  refine eval_added env _ ⟨fun key v addr hh => ?_, fun key v addr _ => (insertedCell_static env key v addr).1⟩ fuel s p
  rw [newCell_dyn, hh, Bool.false_and]

example : ((exEnvOpt 1).types exKeyOpt.ty).hot = false ∧
    ((eval (exEnvOpt 1) 5 {} (.load exKeyOpt Prog.ret')).1.lookup exKeyOpt).map (·.dyn) = some false := by decide +kernel

/-! ## (c) `reload_untyped` does not touch a static entry -/

/-- `reload_untyped` on a key whose entry is static does nothing at all (no read of the source, no
nested load, no write) and reports "nothing reloaded". -/
theorem C10_static_never_written (env : Env) (fuel : Nat) (s : St) (key : Key) (c : Cell)
    (hc : s.lookup key = some c) (hs : c.dyn = false) : reloadUntyped env fuel s key = (s, .done none) :=
  reloadUntyped_skipped env fuel s key c hc (by rw [reloadSkipsStatic_cfg, hs]; rfl)

/-- the reloader still has a typed node for the key (it was loaded before), the source changed: nothing -/
example : reloadUntyped (exEnv 2) 5 exInserted.1 exKey = (exInserted.1, .done none) :=
  C10_static_never_written (exEnv 2) 5 exInserted.1 exKey ⟨.int 7, false, 0, false, 1⟩ (by decide +kernel) rfl

/-- Even independently of that early return, a reload never writes to a static entry and never to
another key's entry: the only cell a `reload_untyped` may change is the dynamic cell of its own key. -/
theorem C10_reload_writes_only_dynamic (env : Env) (fuel : Nat) (s : St) (key k : Key) (c : Cell)
    (hc : s.lookup k = some c) (hs : c.dyn = false ∨ k ≠ key) :
    (reloadUntyped env fuel s key).1.lookup k = some c := by
  rcases hs with hs | hk
  · exact (reloadUntyped_ev env fuel s key).static hc hs
  · exact reloadUntyped_other env fuel s key k c hk hc

example : (reloadUntyped (exEnv 2) 5 exInserted.1 exKeyOpt).1.lookup exKey = some ⟨.int 7, false, 0, false, 1⟩ :=
  C10_reload_writes_only_dynamic (exEnv 2) 5 exInserted.1 exKeyOpt exKey _ (by decide +kernel) (Or.inl rfl)

/-! ## (d) no reloader pass changes a static entry -/

example : exInserted.1.lookup exKey = some ⟨.int 7, false, 0, false, 1⟩ := by decide +kernel

/-- For every environment, fuel, cache and reloader state: a static cell stored under `k` is stored
unchanged (same value, reload id, flag, address) after `reloadAll` over any key list, `runUpdate`,
`handleEvents` for any events, `hotReload` and `enhance`. -/
theorem C10_static_preserved_pass (env : Env) (fuel : Nat) (s : St) (r : RSt) (k : Key) (c : Cell)
    (hc : s.lookup k = some c) (hs : c.dyn = false) :
    (∀ keys, (reloadAll env fuel keys (s, r)).1.lookup k = some c) ∧
    (runUpdate env fuel s r).1.lookup k = some c ∧
    (∀ evs, (handleEvents env fuel s r evs).1.lookup k = some c) ∧
    (hotReload env fuel s r).1.lookup k = some c ∧
    (enhance env fuel s r).1.lookup k = some c :=
  ⟨fun keys => (reloadAll_ev env fuel keys s r).static hc hs, (runUpdate_ev env fuel s r).static hc hs,
   fun evs => (handleEvents_ev env fuel s r evs).static hc hs, (hotReload_ev env fuel s r).static hc hs,
   (enhance_ev env fuel s r).static hc hs⟩

/-- the stale graph node makes the pass call `reload_untyped` for the key — and nothing happens to it -/
example : (hotReload (exEnv 2) 5 exInserted.1 { exInserted.2 with toReload := [.asset exKey] }).1.lookup exKey =
    some ⟨.int 7, false, 0, false, 1⟩ :=
  (C10_static_preserved_pass (exEnv 2) 5 exInserted.1 _ exKey _ (by decide +kernel) rfl).2.2.2.1
example : topo exInserted.2.graph 5 [.asset exKey] = some [exKey] := by decide +kernel

/-- A pass over a cache that holds only static entries does nothing to the cache at all. -/
theorem C10_all_static_pass_noop (env : Env) (fuel : Nat) (keys : List Key) (s : St) (r : RSt)
    (hs : s.All (fun _ c => c.dyn = false)) : (reloadAll env fuel keys (s, r)).1 = s :=
  reloadAll_inv env fuel (fun x => x.1 = s)
    (fun s' _ k h _ => by subst h; rw [reloadUntyped_static reloadSkipsStatic_cfg (fun c hc => hs k c hc)]) keys s r rfl

example : (reloadAll (exEnv 2) 5 [exKey, exKeyOpt] ((step (exEnvNo 1) 5 {} (.load exKey)).1, {})).1 =
    (step (exEnvNo 1) 5 {} (.load exKey)).1 :=
  C10_all_static_pass_noop _ _ _ _ _ (by
    intro k c h
    exact (step_added (exEnvNo 1) 5 {} (.load exKey) (fun _ c => c.dyn = false) ⟨fun _ _ _ => rfl, fun _ _ _ => rfl⟩).new h rfl)

/-! ## (e) histories -/

/-- **Static entries are never rewritten, in any history.** For every list of (environment,
operation) pairs — API operations on any keys, notifications for any entries, `hot_reload`, `enhance`,
the source edited arbitrarily between any two steps — a static cell stored under `k` stays stored
and unchanged as long as no step is `remove k`, `take k` or `clear`. -/
theorem C10_history (fuel : Nat) (h : List (Env × HOp)) (s : St) (r : RSt) (k : Key) (c : Cell)
    (hc : s.lookup k = some c) (hs : c.dyn = false) (hkeep : ∀ e ∈ h, e.2.removes k = false) :
    (runH fuel h (s, r)).1.lookup k = some c := by
  obtain ⟨c', h1, e⟩ := runH_ev fuel h (s, r) k c hkeep hc
  rw [h1, e.static hs]

example : (runH 5 (exHistory.drop 4) exInserted).1.lookup exKey = some ⟨.int 7, false, 0, false, 1⟩ :=
  C10_history 5 (exHistory.drop 4) exInserted.1 exInserted.2 exKey _ (by decide +kernel) rfl (by decide +kernel)

/-- **Values stored with `get_or_insert`**: after ANY prefix history `h1` (in which the key may have
been loaded, registered with the reloader, removed, cleared, …), if the key is absent and
`get_or_insert key v` is called, then after any further history `h2` that does not remove the key,
the entry holds exactly `v`, reload id `NEVER`, flag clear, at the address it was created at. -/
theorem C10_history_get_or_insert (fuel : Nat) (h1 h2 : List (Env × HOp)) (x0 : St × RSt) (env : Env)
    (key : Key) (v : Val)
    (habs : (runH fuel h1 x0).1.lookup key = none)
    (hkeep : ∀ e ∈ h2, e.2.removes key = false) :
    (runH fuel (h1 ++ (env, .api (.getOrInsert key v)) :: h2) x0).1.lookup key =
      some { val := v, dyn := false, rid := ReloadId_NEVER, flag := false, addr := (runH fuel h1 x0).1.next } := by
  rw [runH_append]
  simp only [runH]
  generalize runH fuel h1 x0 = x at habs ⊢
  obtain ⟨s, r⟩ := x
  exact C10_history fuel h2 _ r key _ (C10_get_or_insert_static env fuel s key v habs).1 rfl hkeep

/-- the theorem applies to the history (its hypotheses hold) … -/
example : (runH 5 exHistory ({}, {})).1.lookup exKey =
    some { val := .int 7, dyn := false, rid := ReloadId_NEVER, flag := false, addr := 1 } :=
  C10_history_get_or_insert 5 (exHistory.take 3) (exHistory.drop 4) ({}, {}) (exEnv 1) exKey (.int 7)
    (by decide +kernel) (by decide +kernel)

/-- … and the model computes the same -/
example : (runH 5 exHistory ({}, {})).1.lookup exKey = some ⟨.int 7, false, 0, false, 1⟩ := by decide +kernel

/-- **Opted-out types and caches without reloader**: an entry that a `load` creates while the type
opts out of hot-reloading or the cache has no reloader is static, and stays stored unchanged with
reload id `NEVER` through any further history that does not remove it. -/
theorem C10_history_load_static (fuel : Nat) (h2 : List (Env × HOp)) (s : St) (r : RSt) (env : Env)
    (key : Key) (c : Cell)
    (hopt : (env.types key.ty).hot = false ∨ env.hasReloader = false)
    (habs : s.lookup key = none)
    (hload : (step env fuel s (.load key)).1.lookup key = some c)
    (hkeep : ∀ e ∈ h2, e.2.removes key = false) :
    c.dyn = false ∧ c.rid = ReloadId_NEVER ∧ c.flag = false ∧
    (runH fuel ((env, .api (.load key)) :: h2) (s, r)).1.lookup key = some c := by
  have hf := (C10_load_dynamic_iff env fuel s key key c habs hload).weak
  have hd : c.dyn = false := Bool.eq_false_iff.2 fun hdyn => by
    obtain ⟨hhot, hr⟩ := hf.1 hdyn
    rcases hopt with h | h
    · rw [h] at hhot; cases hhot
    · rw [h] at hr; cases hr
  refine ⟨hd, hf.2.1, hf.2.2, ?_⟩
  simp only [runH, hstep]
  exact C10_history fuel h2 _ r key c hload hd hkeep

/-- opted-out type in a cache with reloader, notified and "reloaded": unchanged -/
example : (runH 5 [(exEnvOpt 1, .api (.load exKeyOpt)), (exEnvOpt 2, .notify [.asset exKeyOpt]), (exEnvOpt 2, .hotReload)]
    ({}, {})).1.lookup exKeyOpt = some ⟨.int 1, false, 0, false, 0⟩ :=
  (C10_history_load_static 5 [(exEnvOpt 2, .notify [.asset exKeyOpt]), (exEnvOpt 2, .hotReload)] {} {} (exEnvOpt 1)
    exKeyOpt _ (Or.inl rfl) rfl (by decide +kernel) (by decide +kernel)).2.2.2

/-- **A cache without reloader holds only static entries, forever**: if every environment of the
history has `hasReloader = false` and the cache starts with static entries only (e.g. empty), every
entry at every later time is static — and so (by `C10_history`) unchanged until removed. -/
theorem C10_no_reloader_all_static (fuel : Nat) (h : List (Env × HOp)) (x : St × RSt)
    (hnr : ∀ e ∈ h, e.1.hasReloader = false) (hs : x.1.All (fun _ c => c.dyn = false)) :
    (runH fuel h x).1.All (fun _ c => c.dyn = false) :=
  runH_all fuel _ (fun _ _ _ h _ => h) h x (fun e he => newCells_static e.1 (hnr e he)) hs

example : (runH 5 [(exEnvNo 1, .api (.load exKey)), (exEnvNo 2, .hotReload)] ({}, {})).1.All (fun _ c => c.dyn = false) :=
  C10_no_reloader_all_static 5 _ ({}, {}) (by decide +kernel) (fun _ _ h => nomatch h)

/-- **A type that opts out is never dynamic**: if in every environment of the history the type
`ty` is not hot-reloaded, no entry of that type is ever dynamic. -/
theorem C10_opted_out_never_dynamic (fuel : Nat) (ty : Nat) (h : List (Env × HOp)) (x : St × RSt)
    (hty : ∀ e ∈ h, (e.1.types ty).hot = false)
    (hs : x.1.All (fun k c => k.ty = ty → c.dyn = false)) :
    (runH fuel h x).1.All (fun k c => k.ty = ty → c.dyn = false) := by
  refine runH_all fuel _ (fun _ _ _ h _ => h) h x ?_ hs
  intro e he
  refine ⟨fun key v addr hk => (newCell_dyn e.1 key.ty v addr).trans ?_,
    fun key v addr _ => (insertedCell_static e.1 key v addr).1⟩
  rw [hk, hty e he, Bool.false_and]

example : (runH 5 [(exEnvOpt 1, .api (.load exKeyOpt)), (exEnvOpt 2, .hotReload)] ({}, {})).1.All
    (fun k c => k.ty = 1 → c.dyn = false) :=
  C10_opted_out_never_dynamic 5 1 _ ({}, {}) (by decide +kernel) (fun _ _ h => nomatch h)

/-- `Arc<T>` opts out of hot-reloading exactly when `T` does (`impl Compound for Arc<T>` inherits
`HOT_RELOADED`): an `Arc` of an opted-out type is never registered nor given a lock. -/
theorem C10_arc_inherits_opt_out : arcInheritsHotReloaded = true := by decide

/-- The `OnceInitCell` wrappers (`utils` feature) opt out of hot-reloading exactly when the wrapped type does, like `Arc`. -/
theorem C10_cell_inherits_opt_out : cellInheritsHotReloaded = true := by decide

/-- Both maps (sharded `AssetCache`, single-threaded `LocalAssetCache`) insert with `entry(key).or_insert(entry)` inside one
lock / borrow scope: the first entry for a key survives, handles that were given out stay valid, a late entry is dropped. -/
theorem C10_insert_keeps_first :
    AmVerif.Gen.skel_cache_AssetMap_for_AssetMap_insert = [.call .s_get_shard, .acq .s_write 0, .call .s_entry, .call .s_or_insert, .rel 0] ∧
    AmVerif.Gen.skel_local_cache_AssetMap_for_AssetMap_insert = [.acq .s_borrow_mut 0, .call .s_entry, .call .s_or_insert, .rel 0] := ⟨rfl, rfl⟩

end AmVerif.Props.C10
