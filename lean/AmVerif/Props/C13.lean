import AmVerif.Gen.TabLock
import AmVerif.Gen.Skel
import AmVerif.Lemmas.Ledger
/-!
# C13 — every stored value is dropped exactly once; type erasure never lies
-/
namespace AmVerif.Props.C13
open AmVerif.Gen AmVerif.Model

/-! ## Type erasure -/

/-- **An untyped handle can be viewed only as the type it was created with**: asking for any other
type yields `None` (or the `wrong handle type` panic), never a reinterpretation. -/
theorem C13_downcast (stored req : Nat) : (viewAs stored req).isSome ↔ stored = req := by
  have h : (isComparesTypeId && entryStoresOwnTypeId && downcastRefGuarded && downcastBoxGuarded && publicViewsUseGuardedCasts) = true := by decide
  unfold viewAs
  rw [h]
  by_cases e : stored = req <;> simp [e]

/-- There are exactly two places where an untyped entry is reinterpreted as a typed one, both
guarded (`downcast_ref`, `downcast`), and `write` asserts equal types before swapping bytes. -/
theorem C13_all_casts_guarded :
    castSitesToTyped = 2 ∧ downcastRefGuarded = true ∧ downcastBoxGuarded = true ∧ writeAssertsSameType = true := by decide

/-! ## A value handed to `insert` is stored iff the key was vacant, otherwise dropped with its entry -/

/-- Both maps (sharded `AssetCache`, single-threaded `LocalAssetCache`) insert with `entry(key).or_insert(entry)` inside
one lock / borrow scope: the first entry for a key survives and the late one is dropped — the `lost` branch of the
ledger's `St.own`. A replacing `insert` would free an entry whose handles are out and keep the late value instead
(re-entrant loads reach this without any thread race). -/
theorem skel_insert_keeps_first :
    skel_cache_AssetMap_for_AssetMap_insert = [.call .s_get_shard, .acq .s_write 0, .call .s_entry, .call .s_or_insert, .rel 0] ∧
    skel_local_cache_AssetMap_for_AssetMap_insert = [.acq .s_borrow_mut 0, .call .s_entry, .call .s_or_insert, .rel 0] := ⟨rfl, rfl⟩

/-! ## The replaced value leaves the entry under the write lock -/

/-- `UntypedEntry::write`: the bytes of the new and the old value are swapped inside the write-lock
scope; the entry handed in (which now holds the old value) is dropped by the caller's frame after
the lock is released — the old value is dropped once, and not while a read guard can reach it. -/
theorem skel_write : skel_entry_UntypedEntry_write =
    [.branch [[.acq .s_write 0, .call .s_get, .call .s_get_mut, .call .s_swap_any, .call .s_increment, .call .s_store_Release, .rel 0, .ret], []],
     .call .s_wrong_handle_type] := rfl

example : viewAs 3 3 = some 3 ∧ viewAs 3 4 = none := by decide +kernel

/-! ## The ownership ledger

The model's ghost ledger (`made` / `held` / `gone`, `Model/World.lean`) is updated at exactly the points
where the code creates, stores, drops or hands out a value. `LedgerOK` (`Lemmas/Ledger.lean`) says: one
entry per key, distinct addresses below the counter, the holders are exactly the live entries, no value
is in two places or gone twice, only created values appear, and every created value is held or gone.
It holds of the empty cache and is preserved by everything the model can do. -/

theorem C13_ledger_init : LedgerOK ({} : St) := LedgerOK.init

/-- every loader program: nested loads, `load_owned`, `get_or_insert` (also into the very slot that is
being loaded), failures, panics, fuel exhaustion, helper threads, `no_record` -/
theorem C13_ledger_eval (env : Env) (f : Nat) (s : St) (p : Prog) : LedgerOK s → LedgerOK (eval env f s p).1 :=
  eval_ledger env f s p

theorem C13_ledger_step (env : Env) (f : Nat) (s : St) (op : Op) : LedgerOK s → LedgerOK (step env f s op).1 :=
  step_ledger env f s op

theorem C13_ledger_reload (env : Env) (f : Nat) (s : St) (key : Key) : LedgerOK s → LedgerOK (reloadUntyped env f s key).1 :=
  reloadUntyped_ledger env f s key

/-- API operations, notifications, `hot_reload`, `enhance_hot_reloading`, the environment changing
arbitrarily between steps -/
theorem C13_ledger_history (fuel : Nat) (h : List (Env × HOp)) (x : St × RSt) : LedgerOK x.1 → LedgerOK (runH fuel h x).1 :=
  runH_ledger fuel h x

/-- dropping the cache drops every stored value -/
def dropCache (s : St) : St := St.release { s with map := [] } (s.map.map (·.2.addr))

theorem C13_ledger_dropCache (s : St) (h : LedgerOK s) : LedgerOK (dropCache s) := h.dropAll

/-- **A created value is in exactly one place**: held by a live entry, or gone. -/
theorem C13_one_place (s : St) (h : LedgerOK s) (v : Nat) (hv : v < s.made.length) :
    (v ∈ s.held.map (·.2) ∧ v ∉ s.gone) ∨ (v ∉ s.held.map (·.2) ∧ v ∈ s.gone) := by
  have hmem := (h.mem_vals v).2 hv
  have hdis := (List.nodup_append.1 h.once).2.2
  rcases List.mem_append.1 hmem with hm | hm
  · exact Or.inl ⟨hm, fun hg => hdis v hm v hg rfl⟩
  · exact Or.inr ⟨fun hh => hdis v hh v hm rfl, hm⟩

/-- **Exactly once.** Over every history from the empty cache (API operations, notified edits,
`hot_reload`, `enhance_hot_reloading`, arbitrary environments), after the cache is dropped nothing
is held, and every value ever created has gone exactly once. -/
theorem C13_exactly_once (fuel : Nat) (h : List (Env × HOp)) :
    let s := dropCache (runH fuel h ({}, {})).1
    s.held = [] ∧ s.gone.Nodup ∧ s.gone.length = s.made.length ∧ ∀ v, v < s.made.length ↔ v ∈ s.gone := by
  intro s
  have hok : LedgerOK s := C13_ledger_dropCache _ (C13_ledger_history fuel h ({}, {}) C13_ledger_init)
  -- the holders are the live entries, and the map is empty
  have hheld : s.held = [] := List.map_eq_nil_iff.1 (hok.holders : s.held.map (·.1) = [])
  have honce := hok.once
  have hall := hok.all
  have hmem := hok.mem_vals
  rw [hheld] at honce hall hmem
  exact ⟨hheld, honce, (Nat.zero_add _).symm.trans hall, fun v => (hmem v).symm⟩

/-! ### Non-vacuity: a concrete history -/

/-- a cache with reloader; every type is hot-reloaded and loads to `n` -/
def exEnv (n : Int) : Env :=
  { read := fun _ _ _ => .ok [], readDir := fun _ _ => .ok [],
    types := fun _ => { hot := true, prog := fun _ => .ret (.int n) }, hasReloader := true }

def exA : Key := ⟨0, "a"⟩
def exB : Key := ⟨0, "b"⟩

/-- two loads, a `get_or_insert` on a present key, a `load_owned`, a notified edit reloaded by
`hot_reload` (one `write`), a `remove` -/
def exHist : List (Env × HOp) :=
  [(exEnv 1, .api (.load exA)), (exEnv 1, .api (.load exB)), (exEnv 1, .api (.getOrInsert exA (.int 9))),
   (exEnv 1, .api (.loadOwned exA)), (exEnv 2, .notify [.asset exB]), (exEnv 2, .hotReload), (exEnv 2, .api (.remove exA))]

/-- the ledger of that history: five values created, one still held (by the reloaded entry: the
value written by the reload), four gone (the one passed to `get_or_insert`, the one `load_owned`
returned, the one the reload replaced, the one `remove` dropped) -/
example : (runH 5 exHist ({}, {})).1.made.length = 5 ∧ (runH 5 exHist ({}, {})).1.held = [(1, 4)] ∧
    (runH 5 exHist ({}, {})).1.gone = [2, 3, 1, 0] := by decide +kernel

example : (dropCache (runH 5 exHist ({}, {})).1).held = [] ∧ (dropCache (runH 5 exHist ({}, {})).1).gone = [2, 3, 1, 0, 4] ∧
    (dropCache (runH 5 exHist ({}, {})).1).made.length = 5 := by decide +kernel

example : (dropCache (runH 5 exHist ({}, {})).1).gone.Nodup ∧
    ∀ v, v < (dropCache (runH 5 exHist ({}, {})).1).made.length ↔ v ∈ (dropCache (runH 5 exHist ({}, {})).1).gone :=
  ⟨(C13_exactly_once 5 exHist).2.1, (C13_exactly_once 5 exHist).2.2.2⟩

/-- before the drop: value 4 is held and not gone, value 0 is gone and not held -/
example : (4 ∈ (runH 5 exHist ({}, {})).1.held.map (·.2) ∧ 4 ∉ (runH 5 exHist ({}, {})).1.gone) ∧
    (0 ∉ (runH 5 exHist ({}, {})).1.held.map (·.2) ∧ 0 ∈ (runH 5 exHist ({}, {})).1.gone) := by decide +kernel

example : (4 ∈ (runH 5 exHist ({}, {})).1.held.map (·.2) ∧ 4 ∉ (runH 5 exHist ({}, {})).1.gone) ∨
    (4 ∉ (runH 5 exHist ({}, {})).1.held.map (·.2) ∧ 4 ∈ (runH 5 exHist ({}, {})).1.gone) :=
  C13_one_place _ (C13_ledger_history 5 exHist ({}, {}) C13_ledger_init) 4 (by decide +kernel)

/-- a loader that loads its own key once (the second checkpoint lets it return): the inner load
stores its value, the outer one loses the insertion and its value is dropped with its entry -/
def exEnvRec : Env :=
  { read := fun _ _ _ => .ok [], readDir := fun _ _ => .ok [],
    types := fun _ => { hot := true, prog := fun id => .tick fun fl => if fl = some true then .ret (.int 7) else .load ⟨0, id⟩ Prog.ret' },
    hasReloader := true, loaderFault := fun n => if n = 1 then some true else none }

example : (runH 6 [(exEnvRec, .api (.load exA))] ({}, {})).1.made.length = 2 ∧
    (runH 6 [(exEnvRec, .api (.load exA))] ({}, {})).1.held = [(0, 0)] ∧
    (runH 6 [(exEnvRec, .api (.load exA))] ({}, {})).1.gone = [1] ∧
    (runH 6 [(exEnvRec, .api (.load exA))] ({}, {})).1.dropped = [1] := by decide +kernel

/-- **Re-entrant fill of the slot being loaded** (an insertion race without threads): the loader of
type 0 stores a provisional value in ITS OWN slot with `get_or_insert`, then loads its child (type 1,
same id), whose loader loads the parent back — a hit on the provisional entry. When the parent's load
returns, the slot is occupied: keep-first drops the late value with its entry. -/
def exEnvReent : Env :=
  { read := fun _ _ _ => .ok [], readDir := fun _ _ => .ok [],
    types := fun ty =>
      { hot := true,
        prog := fun id =>
          if ty = 0 then
            .getOrInsert ⟨0, id⟩ (.int 100) fun v => .load ⟨1, id⟩ fun r =>
              match r with
              | .ok w => .ret (.int (valInt v + valInt w))
              | .error e => .fail e
          else .load ⟨0, id⟩ Prog.ret' },
    hasReloader := true }

/-- three values created: the provisional one (held by the parent's entry at address 0, which every
handle refers to), the child's (held at address 1), and the late result 200 of the parent's loader —
dropped at once with its entry (address 2), never stored -/
example : (runH 9 [(exEnvReent, .api (.load exA))] ({}, {})).1.made.length = 3 ∧
    (runH 9 [(exEnvReent, .api (.load exA))] ({}, {})).1.held = [(0, 0), (1, 1)] ∧
    (runH 9 [(exEnvReent, .api (.load exA))] ({}, {})).1.gone = [2] ∧
    (runH 9 [(exEnvReent, .api (.load exA))] ({}, {})).1.dropped = [2] ∧
    (runH 9 [(exEnvReent, .api (.load exA))] ({}, {})).1.lookup exA = some ⟨.int 100, false, 0, false, 0⟩ ∧
    (step exEnvReent 9 {} (.load exA)).2 = .handle 0 (.int 100) := by decide +kernel

example : LedgerOK (runH 9 [(exEnvReent, .api (.load exA))] ({}, {})).1 :=
  C13_ledger_history 9 _ ({}, {}) C13_ledger_init

/-- `hot_reload` lends the reloader thread raw pointers into the cache and relies on `wait_for_answer` not returning before
the answer: the crate's `Condvar::wait_while` waits without bound and re-checks its condition (both lock implementations). -/
theorem C13_wait_while_rechecks : AmVerif.Gen.waitWhileRechecksStd = true ∧ AmVerif.Gen.waitWhileRechecksParkingLot = true := by decide

end AmVerif.Props.C13
