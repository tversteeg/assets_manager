import AmVerif.Lemmas.Map
import AmVerif.Lemmas.Reload
import AmVerif.Gen.Skel
/-!
# C02 — the cache is a faithful map keyed by (id, type), for every front-end
-/
namespace AmVerif.Props.C02
open AmVerif.Gen AmVerif.Model

/-! ## Front-ends: sharded (`AssetCache`) and flat (`LocalAssetCache`) against the abstract map -/

/-- `AssetCache`'s sharded map behaves like the abstract map `Key → Option Cell` on every
operation sequence, for every hasher (random seed) and every number of shards. -/
theorem C02_sharded_refines (hash : Key → Nat) (m : SMap) (ops : List MOp) :
    m.run hash ops = (m.abs hash).run ops := SMap.refines hash m ops

/-- So does `LocalAssetCache`'s single map. -/
theorem C02_flat_refines (m : AL) (ops : List MOp) : m.run ops = m.abs.run ops := AL.refines m ops

/-- **The front-ends are observationally identical**: from empty, the sharded map (any seed, any
shard count) and the flat map answer every operation sequence identically. -/
theorem C02_frontends_agree (hash : Key → Nat) (len : Nat) (ops : List MOp) :
    SMap.run hash ⟨len, fun _ => []⟩ ops = AL.run [] ops := by
  rw [SMap.refines, AL.refines]
  congr 1

/-- `&self` and `&mut self` operations address the same shard (otherwise `remove`/`take` would
miss entries that `get` finds). -/
theorem C02_shard_index_agree (hash len : Nat) : shardIndexMut hash len = shardIndex hash len := rfl

theorem nextPow2Aux_ge (f p n : Nat) : p ≤ nextPow2Aux f p n := by
  induction f generalizing p with
  | zero => simp [nextPow2Aux]
  | succ f ih =>
    simp only [nextPow2Aux]
    split
    · exact Nat.le_refl _
    · exact Nat.le_trans (by omega) (ih (2 * p))

/-- There is always at least one shard. -/
theorem C02_shard_count_pos (n : Nat) : 0 < shardCount n ∧ 0 < shardCountFallback := by
  constructor
  · have := nextPow2Aux_ge n 1 n
    simp only [shardCount, nextPow2]; omega
  · decide

/-- The model's keep-first `insert` is what the code does: both maps insert with
`entry(key).or_insert(entry)` inside one exclusive scope (regenerated effect skeletons). -/
theorem C02_insert_is_or_insert :
    skel_cache_AssetMap_for_AssetMap_insert = [.call .s_get_shard, .acq .s_write 0, .call .s_entry, .call .s_or_insert, .rel 0] ∧
    skel_local_cache_AssetMap_for_AssetMap_insert = [.acq .s_borrow_mut 0, .call .s_entry, .call .s_or_insert, .rel 0] ∧
    skel_cache_AssetMap_take = [.call .s_get_shard_mut, .call .s_get_mut, .call .s_remove] ∧
    skel_cache_AssetMap_clear = [.loop [.call .s_get_mut, .call .s_clear]] := ⟨rfl, rfl, rfl, rfl⟩

/-! ## The abstract map has the one-line meaning of each operation -/

/-- Entries with a different id or a different type are never affected by an operation on `k`
(only `clear` touches other keys). -/
theorem C02_independent (f : FMap) (op : MOp) (k' : Key)
    (h : match op with | .get k | .insert k _ | .contains k | .remove k => k' ≠ k | .clear => False) :
    (f.step op).1 k' = f k' := by
  cases op with
  | get k => rfl
  | contains k => rfl
  | clear => exact absurd h id
  | insert k c =>
    simp only [FMap.step]
    cases f k with
    | some c' => rfl
    | none => simp only []; simp [h]
  | remove k => simp [FMap.step, h]

/-- `get_or_insert` / `load`'s insert never overwrite: on a present key the stored cell is returned
and nothing changes. -/
theorem C02_insert_keeps (f : FMap) (k : Key) (c c' : Cell) (h : f k = some c') :
    f.step (.insert k c) = (f, .cell (some c')) := by simp [FMap.step, h]

/-- …and on an absent key exactly that key is added, with the offered cell. -/
theorem C02_insert_adds (f : FMap) (k : Key) (c : Cell) (h : f k = none) :
    (f.step (.insert k c)).2 = .cell (some c) ∧ (f.step (.insert k c)).1 k = some c := by
  simp [FMap.step, h]

/-- `get_cached` and `contains` add nothing and change nothing. -/
theorem C02_readonly (f : FMap) (k : Key) : (f.step (.get k)).1 = f ∧ (f.step (.contains k)).1 = f := ⟨rfl, rfl⟩

/-- `remove` / `take` delete exactly the key they name and hand back what was stored. -/
theorem C02_remove_exact (f : FMap) (k : Key) :
    (f.step (.remove k)).2 = .cell (f k) ∧ (f.step (.remove k)).1 k = none ∧
    ∀ k', k' ≠ k → (f.step (.remove k)).1 k' = f k' := by
  refine ⟨rfl, by simp [FMap.step], fun k' h => by simp [FMap.step, h]⟩

/-- `clear` empties everything. -/
theorem C02_clear_all (f : FMap) (k : Key) : (f.step .clear).1 k = none := rfl

/-! ## The cache front-end (`step`, `Model/World.lean`) is that map -/

theorem lookup_eq_get (s : St) (k : Key) : s.lookup k = AL.get s.map k := rfl

/-- A hit: `load` of a cached key returns the stored entry and changes nothing in the map. -/
theorem C02_load_hit (env : Env) (f : Nat) (s : St) (key : Key) (c : Cell) (h : s.lookup key = some c) :
    (eval env (f+2) s (.load key Prog.ret')).2 = .ok c.val ∧
    (eval env (f+2) s (.load key Prog.ret')).1.map = s.map := by
  rw [eval_load_hit env (f + 1) s key _ c h]
  exact ⟨rfl, St.record_map s _ _⟩

/-- `get_or_insert` on a present key: same handle, nothing changes (the ghost ledger notes that the
value passed in was dropped). -/
theorem C02_getOrInsert_keeps (env : Env) (f : Nat) (s : St) (key : Key) (v : Val) (c : Cell)
    (h : s.lookup key = some c) :
    step env f s (.getOrInsert key v) = (s.handOut key.ty, .handle c.addr c.val) ∧ (s.handOut key.ty).core = s.core := by
  simp [step, h]

/-- `get_or_insert` never touches another key (present or absent). -/
theorem C02_getOrInsert_adds_other (env : Env) (f : Nat) (s : St) (key : Key) (v : Val) (k' : Key) (hk : k' ≠ key) :
    (step env f s (.getOrInsert key v)).1.lookup k' = s.lookup k' :=
  (step_getOrInsert_lookup env f s key v k').trans (if_neg hk)

/-- `get_or_insert` on an absent key adds exactly this key with exactly this value. -/
theorem C02_getOrInsert_adds (env : Env) (f : Nat) (s : St) (key : Key) (v : Val)
    (h : s.lookup key = none) :
    ((step env f s (.getOrInsert key v)).1.lookup key).map (·.val) = some v ∧
    ∀ k', k' ≠ key → (step env f s (.getOrInsert key v)).1.lookup k' = s.lookup k' := by
  refine ⟨?_, C02_getOrInsert_adds_other env f s key v⟩
  rw [step_getOrInsert_lookup, if_pos rfl, h]
  rfl

/-- `get_cached`, `contains` change nothing at all. -/
theorem C02_lookups_readonly (env : Env) (f : Nat) (s : St) (key : Key) :
    (step env f s (.getCached key)).1 = s ∧ (step env f s (.contains key)).1 = s := ⟨rfl, rfl⟩

/-- `remove` / `take`: the key is gone, every other key is untouched, `take` hands back the value. -/
theorem C02_remove_take_exact (env : Env) (f : Nat) (s : St) (key : Key) :
    (step env f s (.remove key)).1.lookup key = none ∧
    (step env f s (.take key)).1.lookup key = none ∧
    (∀ k', k' ≠ key → (step env f s (.remove key)).1.lookup k' = s.lookup k' ∧
                      (step env f s (.take key)).1.lookup k' = s.lookup k') ∧
    (step env f s (.remove key)).2 = .bool (s.lookup key).isSome ∧
    (step env f s (.take key)).2 = (match s.lookup key with | some c => .value c.val | none => .none) :=
  ⟨(step_remove_lookup env f s key key).trans (if_pos rfl), (step_take_lookup env f s key key).trans (if_pos rfl),
    fun k' h => ⟨(step_remove_lookup env f s key k').trans (if_neg h), (step_take_lookup env f s key k').trans (if_neg h)⟩,
    rfl, rfl⟩

/-- `clear` removes every entry. -/
theorem C02_clear_exact (env : Env) (f : Nat) (s : St) (k : Key) : (step env f s .clear).1.lookup k = none := rfl

/-- **Loads only add**: whatever a load (or any loader program) does — nested loads, failures,
panics — every entry that was cached before is still cached, unchanged, afterwards. -/
theorem C02_loads_only_add (env : Env) (f : Nat) (s : St) (p : Prog) (k : Key) (c : Cell)
    (h : s.lookup k = some c) : (eval env f s p).1.lookup k = some c := eval_mono env f s p k c h

/-- A failed `load` adds nothing of its own: the state is exactly what evaluating the loader left
(assets requested on the way and cached by those nested loads stay cached). -/
theorem C02_failed_load_adds_nothing_of_its_own (env : Env) (f : Nat) (s : St) (key : Key)
    (habs : s.lookup key = none) (e : LErr)
    (hfail : (eval env (f+2) s (.load key Prog.ret')).2 = .err e) :
    (eval env (f+2) s (.load key Prog.ret')).1 =
      (loadAndRecord env (fun s => eval env (f+1) s ((env.types key.ty).prog key.id)) key
        (s.record (recordsAsset (env.types key.ty).hot env.hasReloader) (.asset key))).1 := by
  rw [eval_load_ret' env f s key habs] at hfail ⊢
  generalize loadAndRecord env _ key _ = r at hfail ⊢
  obtain ⟨s1, o⟩ := r
  cases o with
  | ok v => cases hfail
  | _ => rfl

/-- `load_owned` never caches the asset it returns: the state afterwards is what evaluating the
loader left. -/
theorem C02_load_owned_adds_nothing_of_its_own (env : Env) (f : Nat) (s : St) (key : Key) :
    (eval env (f+2) s (.loadOwned key Prog.ret')).1.core =
      (loadAndRecord env (fun s => eval env (f+1) s ((env.types key.ty).prog key.id)) key
        (s.record (recordsAsset (env.types key.ty).hot env.hasReloader) (.asset key))).1.core := by
  rw [eval_loadOwned_ret'_fst]
  generalize loadAndRecord env _ key _ = r
  obtain ⟨s1, o⟩ := r
  cases o <;> rfl

/-- A successful `load` of an absent key caches it (keep-first: if a nested load already cached
the key, that entry survives) and the handle's value is the cached one. -/
theorem C02_load_caches (env : Env) (f : Nat) (s : St) (key : Key) (v : Val)
    (hok : (eval env (f+2) s (.load key Prog.ret')).2 = .ok v) :
    ∃ c, (eval env (f+2) s (.load key Prog.ret')).1.lookup key = some c ∧ c.val = v := by
  cases hl : s.lookup key with
  | some c =>
    rw [eval_load_hit env (f + 1) s key _ c hl] at hok ⊢
    exact ⟨c, (St.record_lookup s _ _ key).trans hl, Outcome.ok.inj hok⟩
  | none =>
    rw [eval_load_ret' env f s key hl] at hok ⊢
    generalize loadAndRecord env _ key _ = r at hok ⊢
    obtain ⟨s1, o⟩ := r
    cases o with
    | ok v' =>
      have hv := Outcome.ok.inj hok
      rw [St.insertKeepFirst_snd] at hv
      exact ⟨_, (St.insertKeepFirst_lookup s1 key key _).trans (if_pos rfl), hv⟩
    | _ => cases hok

/-! ## Histories of front-end operations (every length, every loader, every source)

The single-step facts above lifted to arbitrary operation sequences of `step`: an entry lives, at the same
address and with the same value, until an operation names it for deletion; and only `load`, `load_owned` (through
the assets its loader requests) and `get_or_insert` can ever make a key appear. -/

/-- the operations that delete key `k` -/
def deletes (k : Key) : Op → Bool
  | .remove k' => decide (k' = k)
  | .take k' => decide (k' = k)
  | .clear => true
  | _ => false

/-- the operations that may add entries -/
def mayAdd : Op → Bool
  | .load _ => true
  | .loadOwned _ => true
  | .getOrInsert _ _ => true
  | _ => false

/-- a history of API operations; the environment (source contents, loaders) may differ at every step -/
def runOps (f : Nat) : St → List (Env × Op) → St
  | s, [] => s
  | s, (env, op) :: ops => runOps f (step env f s op).1 ops

theorem deletes_eq_removes (k : Key) (op : Op) : deletes k op = op.removes k := by
  cases op <;> rfl

/-- One step keeps every entry it does not name for deletion: same cell (address, value, flags). -/
theorem C02_step_keeps (env : Env) (f : Nat) (s : St) (op : Op) (k : Key) (c : Cell)
    (hd : deletes k op = false) (h : s.lookup k = some c) : (step env f s op).1.lookup k = some c :=
  step_keeps env f s op k c (deletes_eq_removes k op ▸ hd) h

/-- **An entry lives until it is deleted**: over every history in which no operation removes, takes or clears `k`,
the entry stored under `k` is still there, at the same address, with the same value. -/
theorem C02_history_keeps (f : Nat) (ops : List (Env × Op)) (s : St) (k : Key) (c : Cell)
    (hd : ∀ eo ∈ ops, deletes k eo.2 = false) (h : s.lookup k = some c) : (runOps f s ops).lookup k = some c := by
  induction ops generalizing s with
  | nil => exact h
  | cons eo ops ih =>
    obtain ⟨env, op⟩ := eo
    exact ih _ (fun e he => hd e (List.mem_cons_of_mem _ he)) (C02_step_keeps env f s op k c (hd _ (List.mem_cons_self ..)) h)

/-- Look-ups and deletions add nothing: whatever is cached after such a step was cached before, unchanged. -/
theorem C02_step_adds_only_by_adders (env : Env) (f : Nat) (s : St) (op : Op) (k : Key) (c : Cell)
    (ha : mayAdd op = false) (h : (step env f s op).1.lookup k = some c) : s.lookup k = some c := by
  cases op with
  | load | loadOwned | getOrInsert => cases ha
  | getCached key => exact h
  | contains key => exact h
  | remove key => exact lookup_of_removed h
  | take key => exact lookup_of_removed h
  | clear => cases h

/-- **Only loads and `get_or_insert` add**: over every history made of `get_cached`, `contains`, `remove`, `take`
and `clear`, every entry present at the end was present at the start, unchanged. -/
theorem C02_history_adds_only_by_adders (f : Nat) (ops : List (Env × Op)) (s : St) (k : Key) (c : Cell)
    (ha : ∀ eo ∈ ops, mayAdd eo.2 = false) (h : (runOps f s ops).lookup k = some c) : s.lookup k = some c := by
  induction ops generalizing s with
  | nil => exact h
  | cons eo ops ih =>
    obtain ⟨env, op⟩ := eo
    exact C02_step_adds_only_by_adders env f s op k c (ha _ (List.mem_cons_self ..))
      (ih _ (fun e he => ha e (List.mem_cons_of_mem _ he)) h)

/-- **Keys never interfere**: an operation that names key `key` and is not a load (loads may request other assets)
leaves every other key exactly as it was — in particular the same id under another type, and another id under the same type. -/
theorem C02_other_keys_untouched (env : Env) (f : Nat) (s : St) (key k : Key) (v : Val) (hk : k ≠ key) :
    (step env f s (.getOrInsert key v)).1.lookup k = s.lookup k ∧
    (step env f s (.getCached key)).1.lookup k = s.lookup k ∧
    (step env f s (.contains key)).1.lookup k = s.lookup k ∧
    (step env f s (.remove key)).1.lookup k = s.lookup k ∧
    (step env f s (.take key)).1.lookup k = s.lookup k :=
  ⟨C02_getOrInsert_adds_other env f s key v k hk, rfl, rfl,
   ((C02_remove_take_exact env f s key).2.2.1 k hk).1, ((C02_remove_take_exact env f s key).2.2.1 k hk).2⟩

theorem runOps_append (f : Nat) (a b : List (Env × Op)) (s : St) : runOps f s (a ++ b) = runOps f (runOps f s a) b := by
  induction a generalizing s with
  | nil => rfl
  | cons x a ih => obtain ⟨env, op⟩ := x; exact ih _

/-- After a deletion the key is absent, whatever came before (so `remove`; `contains` answers false for every history). -/
theorem C02_history_then_delete (f : Nat) (ops : List (Env × Op)) (s : St) (env : Env) (k : Key) :
    (runOps f s (ops ++ [(env, .remove k)])).lookup k = none ∧
    (runOps f s (ops ++ [(env, .take k)])).lookup k = none ∧
    (runOps f s (ops ++ [(env, .clear)])).lookup k = none := by
  refine ⟨?_, ?_, ?_⟩
  · rw [runOps_append]; exact (C02_remove_take_exact env f _ k).1
  · rw [runOps_append]; exact (C02_remove_take_exact env f _ k).2.1
  · rw [runOps_append]; rfl

/-! Non-vacuity -/
example : (SMap.run (fun k => k.id.length) ⟨4, fun _ => []⟩
    [.insert ⟨0, "a"⟩ ⟨.int 1, false, 0, false, 0⟩, .insert ⟨0, "a"⟩ ⟨.int 2, false, 0, false, 1⟩, .get ⟨1, "a"⟩]).length = 3 := by decide +kernel

/-- **One handle for the life of the entry**: once `k` is cached, every `get_cached`, `load` hit and `get_or_insert` issued at any
two points of a history without deletion of `k` — under whatever source contents and loaders — answers the same handle: same
address, same value. (Over `step`, i.e. without reloads; with reloads the address is still the same: C01 / C07.) -/
theorem C02_same_handle_along_history (f : Nat) (ops1 ops2 : List (Env × Op)) (s : St) (k : Key) (c : Cell) (env env' : Env) (v : Val)
    (hd : ∀ eo ∈ ops1 ++ ops2, deletes k eo.2 = false) (h : s.lookup k = some c) :
    (step env f (runOps f s ops1) (.getCached k)).2 = .handle c.addr c.val ∧
    (step env' f (runOps f s (ops1 ++ ops2)) (.getCached k)).2 = .handle c.addr c.val ∧
    (step env' f (runOps f s (ops1 ++ ops2)) (.getOrInsert k v)).2 = .handle c.addr c.val := by
  have h1 := C02_history_keeps f ops1 s k c (fun e he => hd e (List.mem_append_left _ he)) h
  have h2 := C02_history_keeps f (ops1 ++ ops2) s k c hd h
  refine ⟨?_, ?_, ?_⟩
  · simp only [step, h1]
  · simp only [step, h2]
  · simp only [step, h2]

/-! Non-vacuity of the history theorems: a concrete source, a history with loads of three keys (same id under two
types, another id), a `get_or_insert`, and deletions of the other keys only — the first entry is still at address 0. -/
def exEnv (n : Int) : Env :=
  { read := fun _ _ _ => .ok [], readDir := fun _ _ => .ok [],
    types := fun _ => { hot := true, prog := fun _ => .ret (.int n) }, hasReloader := true }
def exOps : List (Env × Op) :=
  [(exEnv 1, .load ⟨0, "a"⟩), (exEnv 2, .load ⟨1, "a"⟩), (exEnv 3, .load ⟨0, "b"⟩), (exEnv 4, .getOrInsert ⟨0, "a"⟩ (.int 9)),
   (exEnv 5, .remove ⟨1, "a"⟩), (exEnv 6, .take ⟨0, "b"⟩), (exEnv 7, .load ⟨0, "a"⟩)]
example : (∀ eo ∈ exOps, deletes ⟨0, "a"⟩ eo.2 = false) ∧
    ((runOps 5 {} (exOps.take 1)).lookup ⟨0, "a"⟩).map (fun c => (c.addr, c.val)) = some (0, .int 1) ∧
    ((runOps 5 {} exOps).lookup ⟨0, "a"⟩).map (fun c => (c.addr, c.val)) = some (0, .int 1) ∧
    (runOps 5 {} exOps).lookup ⟨1, "a"⟩ = none ∧ (runOps 5 {} exOps).lookup ⟨0, "b"⟩ = none := by
  decide +kernel

end AmVerif.Props.C02
