import AmVerif.Model.World
import AmVerif.Model.Dfs
import AmVerif.Gen.Skel
/-!
# Hot-reloading: the reloader's data (`paths.rs`, `dependencies.rs`) and one update pass

`RSt` is `HotReloadingData`: the dependency graph, the set of changed entries, the mode. The
functions transcribe `DepsGraph::{insert, topological_sort_from, visit, reload}` (`visit` and the sort: `Model/Dfs.lean`),
`HotReloadingData::{handle_events, add_asset, clear_local_cache, update_if_local, use_static_ref}`,
`run_update` and `AnyCache::reload_untyped` + `UntypedEntry::write`.

`HashMap` / `HashSet` are modelled as insertion-ordered lists (**modelled, not verified**); the
code's iteration order is arbitrary, so every statement proved here holds for every order of the
`rdeps` / `changed` lists, and the correspondence only compares order-independent observations.
-/
namespace AmVerif.Model
open AmVerif.Gen

/-- `GraphNode` -/
structure GNode where
  /-- `typ.is_some()`: the asset is reloaded when reached -/
  typed : Bool := false
  rdeps : List Dep := []
  deps : List Dep := []
  deriving Repr

abbrev Graph := List (Dep × GNode)

def Graph.get (g : Graph) (d : Dep) : Option GNode := (g.find? (·.1 = d)).map (·.2)

def Graph.set (g : Graph) (d : Dep) (n : GNode) : Graph :=
  if g.any (·.1 = d) then g.map (fun x => if x.1 = d then (d, n) else x) else g ++ [(d, n)]

def addIfAbsent (d : Dep) (l : List Dep) : List Dep := if d ∈ l then l else l ++ [d]

/-- `DepsGraph::insert(asset_key, deps, typ)` -/
def Graph.insertAsset (g : Graph) (a : Dep) (deps : List Dep) : Graph :=
  -- for key in deps: entry(key).or_default().rdeps.insert(asset_key)
  let g1 := deps.foldl (fun g d =>
    let n := (g.get d).getD {}
    g.set d { n with rdeps := addIfAbsent a n.rdeps }) g
  match g1.get a with
  | none => g1.set a { typed := true, deps := deps, rdeps := [] }
  | some old =>
    let removed := old.deps.filter (fun d => d ∉ deps)
    let g2 := g1.set a { old with deps := deps, typed := true }
    removed.foldl (fun g d =>
      match g.get d with
      | some n => g.set d { n with rdeps := n.rdeps.filter (· ≠ a) }
      | none => g) g2

def Graph.rdepsOf (g : Graph) (d : Dep) : Option (List Dep) := (g.get d).map (·.rdeps)

def assetKeys : List Dep → List Key
  | [] => []
  | .asset k :: ds => k :: assetKeys ds
  | _ :: ds => assetKeys ds

/-- `topological_sort_from(changed).into_iter()`: the assets to reload, every asset after the
entries it depends on. -/
def topo (g : Graph) (fuel : Nat) (changed : List Dep) : Option (List Key) :=
  (sortFrom g.rdepsOf fuel changed).map fun st => assetKeys st.out

/-- Does `DepsGraph::visit` mark a node visited before recursing into its reverse dependencies?
(derived from the regenerated skeleton: `visited.insert` before or after the loop) -/
def visitMarksFirst : Bool :=
  match skel_hot_reloading_dependencies_DepsGraph_visit with
  | [.call .s_contains, .branch _, .call .s_get, .branch _, .call .s_insert, .loop _, .branch _] => true
  | _ => false

/-- the reloader thread's data -/
structure RSt where
  graph : Graph := []
  toReload : List Dep := []
  static_ : Bool := false
  /-- the thread died (a loader panicked during a reload) or diverged (unbounded recursion) -/
  dead : Bool := false
  deriving Repr

def St.setCell (s : St) (k : Key) (c : Cell) : St :=
  { s with map := s.map.map fun x => if x.1 = k then (k, c) else x }

inductive ReloadOutcome
  /-- `some (deps, true)`: reloaded; `some (deps, false)`: the load failed, `deps` is what it read -/
  | done (deps : Option (List Dep × Bool))
  | died
  deriving Repr

/-- `DepsGraph::add_deps`: keep the node's dependencies and add `deps` (reverse edges too). -/
def Graph.addDeps (g : Graph) (a : Dep) (deps : List Dep) : Graph :=
  let g1 := deps.foldl (fun g d =>
    let n := (g.get d).getD {}
    g.set d { n with rdeps := addIfAbsent a n.rdeps }) g
  match g1.get a with
  | some n => g1.set a { n with deps := deps.foldl (fun l d => addIfAbsent d l) n.deps }
  | none => g1

/-- `AnyCache::reload_untyped` on the reloader thread (its own, empty recording stack; the
`BorrowedCache` always has the reloader). -/
def reloadUntyped (env : Env) (fuel : Nat) (s : St) (key : Key) : St × ReloadOutcome :=
  match s.lookup key with
  | none => (s, .done none)
  | some c =>
    if reloadSkipsStatic && !c.dyn then (s, .done none) else
    let (s1, o, deps) := withFrame true (some []) (fun s => eval env fuel s ((env.types key.ty).prog key.id)) { s with recs := [] }
    let s1 := { s1 with recs := [] }
    match o with
    | .ok v =>
      if c.dyn then
        -- `UntypedEntry::write`: swap under the write lock, `reload.increment()`, `reload_global = true`
        let c' := match s1.lookup key with | some c' => c' | none => c
        ((s1.setCell key { c' with val := v, rid := (AtomicReloadId_increment c'.rid).2, flag := true }).swapValue key.ty c'.addr, .done (some (deps, true)))
      else (s1.handOut key.ty, .died)   -- `wrong_handle_type()` panics on the reloader thread
    | .err _ => (s1, .done (if failedReloadKeepsNewDeps then some (deps, false) else none))
    | .panicked => if reloadCatchesPanic then (s1, .done none) else (s1, .died)
    | .diverged => (s1, .died)

/-- `DepsGraph::reload` for each key of the sorted list (`run_update`). -/
def reloadAll (env : Env) (fuel : Nat) : List Key → St × RSt → St × RSt
  | [], x => x
  | k :: ks, (s, r) =>
    if r.dead then (s, r) else
    match r.graph.get (.asset k) with
    | some node =>
      if node.typed then
        match reloadUntyped env fuel s k with
        | (s1, .done (some (deps, true))) => reloadAll env fuel ks (s1, { r with graph := r.graph.insertAsset (.asset k) deps })
        | (s1, .done (some (deps, false))) => reloadAll env fuel ks (s1, { r with graph := r.graph.addDeps (.asset k) deps })
        | (s1, .done none) => reloadAll env fuel ks (s1, r)
        | (s1, .died) => (s1, { r with dead := true })
      else reloadAll env fuel ks (s, r)
    | none => reloadAll env fuel ks (s, r)

/-- `run_update`: sort, clear the changed set, reload each. -/
def runUpdate (env : Env) (fuel : Nat) (s : St) (r : RSt) : St × RSt :=
  match topo r.graph fuel r.toReload with
  | none => (s, { r with dead := true })
  | some keys => reloadAll env fuel keys (s, { r with toReload := [] })

/-- Drain the cache → reloader messages (`AddAsset`, `Clear`). -/
def processMsgs (s : St) (r : RSt) : St × RSt :=
  let r' := s.out.foldl (fun r m =>
    match m with
    | .addAsset key deps => { r with graph := r.graph.insertAsset (.asset key) deps }
    | .clear => { r with toReload := [] }) r
  ({ s with out := [] }, r')

/-- `handle_events`: keep the entries the graph knows; in static mode update at once. -/
def handleEvents (env : Env) (fuel : Nat) (s : St) (r : RSt) (evs : List Dep) : St × RSt :=
  if r.dead then (s, r) else
  let (s, r) := processMsgs s r
  let r := { r with toReload := evs.foldl (fun l e => if (r.graph.get e).isSome then addIfAbsent e l else l) r.toReload }
  if r.static_ then
    let (s, r) := runUpdate env fuel s r
    processMsgs s r
  else (s, r)

/-- `hot_reload()` in local mode: drain messages, update; messages sent by nested loads of the
reloads are drained as well (they are in the channel before the next request). -/
def hotReload (env : Env) (fuel : Nat) (s : St) (r : RSt) : St × RSt :=
  if r.dead then (s, r) else
  let (s, r) := processMsgs s r
  if r.static_ then (s, r) else
  let (s, r) := runUpdate env fuel s r
  processMsgs s r

/-- `enhance_hot_reloading`: switch to the static mode and update once. -/
def enhance (env : Env) (fuel : Nat) (s : St) (r : RSt) : St × RSt :=
  if r.dead then (s, r) else
  let (s, r) := processMsgs s r
  if r.static_ then (s, r) else
  let (s, r) := runUpdate env fuel s { r with static_ := true }
  processMsgs s r

end AmVerif.Model
