/-!
# The reverse-dependency visit of `topological_sort_from` (`dependencies.rs`), generic in the node type

Needs no other module, so the graph-algorithm theorems (`Lemmas/Topo.lean`) serve both models of the
sort: the reloader's data (`Model/Reload.lean`: `topo` is `sortFrom` on the graph's `rdepsOf`) and the
reloader thread (`Model/Reloader.lean`: its `visit` is a definition of its own, equal to `visitG` in the
repaired statement order, `Lemmas/Visit.lean`: `visit_true_eq`).
-/
namespace AmVerif.Model

/-- DFS state of `topological_sort_from`: `vis` = `sort_data.visited`, `out` = `sort_data.list`
already reversed (`k :: out`: a node ends up before the nodes that depend on it). -/
structure VSt (α : Type) where
  vis : List α
  out : List α

/-- `DepsGraph::visit`, fuelled (the recursion depth of the code is bounded by the number of nodes
because a node is marked visited *before* its reverse dependencies are visited — obligation
`visit_marks_first` on the regenerated skeleton). `rdeps k = none`: `k` is not in the graph.
`none` result = fuel exhausted. Generic in the node type. -/
def visitG {α : Type} [DecidableEq α] (rdeps : α → Option (List α)) : Nat → VSt α → α → Option (VSt α)
  | 0, _, _ => none
  | f+1, st, k =>
    if k ∈ st.vis then some st else
    match rdeps k with
    | none => some st
    | some rs =>
      match rs.foldlM (fun s r => visitG rdeps f s r) ⟨k :: st.vis, st.out⟩ with
      | none => none
      | some s => some ⟨s.vis, k :: s.out⟩

def sortFrom {α : Type} [DecidableEq α] (rdeps : α → Option (List α)) (fuel : Nat) (changed : List α) : Option (VSt α) :=
  changed.foldlM (fun s d => visitG rdeps fuel s d) ⟨[], []⟩

end AmVerif.Model
