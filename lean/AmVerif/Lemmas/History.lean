import AmVerif.Lemmas.StaticMode
/-!
# Histories of a cache with its reloader under one environment

For the largest vocabulary of steps — `HistP StepOKO`: every API operation, `clear` and `load_owned` included, and
every reloader step — there is one invariant (`SInvC`), one step theorem (`SInvC.stepO`: every step that satisfies
`StepOKO` keeps it; `reloader_step`: after a reloader step everything is settled) and one history theorem
(`histO_settled`, an instance of `histP_settled`). The smaller vocabularies of the property theorems are nested —
`LoadHist` ⊆ `StaticHist` = `HistP StepOK` ⊆ `HistP StepOKC` ⊆ `HistP StepOKO` (`LoadHist.toStatic`, `StaticHist.toP`,
`StepOK.toC`, `StepOKC.toO`) — and so are their invariants (`SInv.of_hinv`, `SInv.toC`): `SInv` / `Pending` for histories
without `clear` and `load_owned` (every registration in the channel is good), `HInv` for those of loads and
`hot_reload()`s (no pass ever runs, so the index need not be exact). The two smaller invariants conclude more than
`SInvC` (every registration good, not only the last one of each key), and property theorems are stated with them
(`Pending` is the hypothesis of `C05_static_events_converge_pending_partial`, `HInv` the invariant behind
`C05_history_edit_reload_converges_partial` and `C05_remove_breaks_settled`); their step lemmas (`SInv.step`,
`HInv.step_*`) are short corollaries of the same facts about the channel (`Lemmas/Channel.lean`).
-/
namespace AmVerif.Model
open AmVerif.Gen AmVerif.Lemmas.TopoGraph AmVerif.Lemmas.Topo

/-! ## The per-step hypotheses -/

/-- the named hypotheses on an API operation that changes the cache, as in `LoadHist`: `LoadOK` for a
load, the two no-fill hypotheses for `get_or_insert`, `NoDependentOn` for `remove` / `take` -/
def ApiOK (env : Env) (fuel : Nat) : Op → St × RSt → Prop
  | .load key, x => LoadOK env fuel x.1 x.2 key
  | .getOrInsert key v, x =>
      NoProbedKeyFilled x.1 (step env fuel x.1 (.getOrInsert key v)).1 x.2.graph ∧
      NoPendingKeyFilled x.1 (step env fuel x.1 (.getOrInsert key v)).1
  | .remove key, x => NoDependentOn x.1 x.2.graph key
  | .take key, x => NoDependentOn x.1 x.2.graph key
  | _, _ => False

/-- **The per-step hypotheses of a history.** API operations: the operation leaves the cache as it is
(`get_cached`, `contains`, …) or satisfies `ApiOK`. Reloader steps: when the step runs `run_update`
(`HOp.runsPass`) and there is something to reload, that pass satisfies `PassOK`. -/
def StepOK (env : Env) (fuel : Nat) : HOp → St × RSt → Prop
  | .api o, x => (step env fuel x.1 o).1 = x.1 ∨ ApiOK env fuel o x
  | op, x => op.runsPass x.2 = true → (prePass op x).2.toReload ≠ [] → PassOK env fuel (prePass op x)

theorem StepOK.load {env : Env} {fuel : Nat} {x : St × RSt} {key : Key} (h : LoadOK env fuel x.1 x.2 key) :
    StepOK env fuel (.api (.load key)) x := Or.inr h

theorem StepOK.look {env : Env} {fuel : Nat} {x : St × RSt} {o : Op} (h : (step env fuel x.1 o).1 = x.1) :
    StepOK env fuel (.api o) x := Or.inl h

/-- for a reloader step, `StepOK` is the hypothesis on its pass -/
theorem StepOK.of_reloader {env : Env} {fuel : Nat} {op : HOp} {x : St × RSt} (hop : op.isReloader = true)
    (h : op.runsPass x.2 = true → (prePass op x).2.toReload ≠ [] → PassOK env fuel (prePass op x)) :
    StepOK env fuel op x := by
  cases op with
  | api o => cases hop
  | _ => exact h

/-- a reloader step that has nothing to reload needs no hypothesis -/
theorem StepOK.of_idle {env : Env} {fuel : Nat} {op : HOp} {x : St × RSt} (hop : op.isReloader = true)
    (h : (prePass op x).2.toReload = []) : StepOK env fuel op x :=
  .of_reloader hop fun _ hne => absurd h hne

/-- a reloader step whose pass satisfies `PassOK` -/
theorem StepOK.of_pass {env : Env} {fuel : Nat} {op : HOp} {x : St × RSt} (hop : op.isReloader = true)
    (h : PassOK env fuel (prePass op x)) : StepOK env fuel op x :=
  .of_reloader hop fun _ _ => h

/-- `ApiOK` with `clear` admitted (no hypothesis) and the weakened hypotheses on the channel -/
def ApiOKC (env : Env) (fuel : Nat) : Op → St × RSt → Prop
  | .load key, x => LoadOKC env fuel x.1 x.2 key
  | .getOrInsert key v, x =>
      NoProbedKeyFilled x.1 (step env fuel x.1 (.getOrInsert key v)).1 x.2.graph ∧
      NoLivePendingKeyFilled x.1 (step env fuel x.1 (.getOrInsert key v)).1
  | .remove key, x => NoDependentOnC x.1 x.2.graph key
  | .take key, x => NoDependentOnC x.1 x.2.graph key
  | .clear, _ => True
  | _, _ => False

theorem ApiOK.toC {env : Env} {fuel : Nat} {o : Op} {x : St × RSt} (h : ApiOK env fuel o x) : ApiOKC env fuel o x := by
  cases o with
  | load key => exact LoadOK.toC h
  | getOrInsert key v => exact ⟨h.1, h.2.live⟩
  | remove key => exact NoDependentOn.toC h
  | take key => exact NoDependentOn.toC h
  | clear => trivial
  | _ => exact h.elim

/-- **The per-step hypotheses of a history with `clear`**: `StepOK` with `ApiOKC` for the API operations
(so: every API operation of `StepOK`, under weaker hypotheses, and `clear` without any) -/
def StepOKC (env : Env) (fuel : Nat) : HOp → St × RSt → Prop
  | .api o, x => (step env fuel x.1 o).1 = x.1 ∨ ApiOKC env fuel o x
  | op, x => op.runsPass x.2 = true → (prePass op x).2.toReload ≠ [] → PassOK env fuel (prePass op x)

theorem StepOK.toC {env : Env} {fuel : Nat} {op : HOp} {x : St × RSt} (h : StepOK env fuel op x) :
    StepOKC env fuel op x := by
  cases op with
  | api o => exact h.imp id ApiOK.toC
  | _ => exact h

theorem StepOKC.clear {env : Env} {fuel : Nat} {x : St × RSt} : StepOKC env fuel (.api .clear) x := Or.inr trivial

theorem StepOKC.load {env : Env} {fuel : Nat} {x : St × RSt} {key : Key} (h : LoadOKC env fuel x.1 x.2 key) :
    StepOKC env fuel (.api (.load key)) x := Or.inr h

/-- **The per-step hypotheses of a history with `clear` and `load_owned`**: `StepOKC`, and `LoadOwnedOK`
for a `load_owned` from the API -/
def StepOKO (env : Env) (fuel : Nat) : HOp → St × RSt → Prop
  | .api (.loadOwned key), x => (step env fuel x.1 (.loadOwned key)).1 = x.1 ∨ LoadOwnedOK env fuel x.1 x.2 key
  | op, x => StepOKC env fuel op x

theorem StepOKC.toO {env : Env} {fuel : Nat} {op : HOp} {x : St × RSt} (h : StepOKC env fuel op x) :
    StepOKO env fuel op x := by
  cases op with
  | api o =>
    cases o with
    | loadOwned key => exact h.imp id (fun h' => h'.elim)
    | _ => exact h
  | _ => exact h

theorem StepOKO.loadOwned {env : Env} {fuel : Nat} {x : St × RSt} {key : Key} (h : LoadOwnedOK env fuel x.1 x.2 key) :
    StepOKO env fuel (.api (.loadOwned key)) x := Or.inr h

/-- what `StepOKO` says of an API step: it leaves the cache as it is, satisfies `ApiOKC`, or is a `load_owned`
that satisfies `LoadOwnedOK` -/
theorem StepOKO.api_cases {env : Env} {fuel : Nat} {o : Op} {x : St × RSt} (h : StepOKO env fuel (.api o) x) :
    (step env fuel x.1 o).1 = x.1 ∨ ApiOKC env fuel o x ∨ ∃ key, o = .loadOwned key ∧ LoadOwnedOK env fuel x.1 x.2 key := by
  cases o with
  | loadOwned key => exact h.imp id fun h => .inr ⟨key, rfl, h⟩
  | _ => exact h.imp id .inl

/-- what `StepOKO` says of a reloader step -/
theorem StepOKO.pass {env : Env} {fuel : Nat} {op : HOp} {x : St × RSt} (hop : op.isReloader = true)
    (h : StepOKO env fuel op x) :
    op.runsPass x.2 = true → (prePass op x).2.toReload ≠ [] → PassOK env fuel (prePass op x) := by
  cases op with
  | api o => cases hop
  | _ => exact h

theorem StepOKC.pass {env : Env} {fuel : Nat} {op : HOp} {x : St × RSt} (hop : op.isReloader = true)
    (h : StepOKC env fuel op x) :
    op.runsPass x.2 = true → (prePass op x).2.toReload ≠ [] → PassOK env fuel (prePass op x) :=
  h.toO.pass hop

/-! ## The invariants -/

/-- invariant of the histories of loads and `hot_reload`s -/
structure HInv (env : Env) (fuel : Nat) (x : St × RSt) : Prop where
  pending : Pending env fuel x.1 x.2.graph
  live : x.2.dead = false
  idle : x.2.toReload = []
  local_ : x.2.static_ = false

theorem HInv.init (env : Env) (fuel : Nat) : HInv env fuel ({}, {}) :=
  ⟨Pending.of_settled rfl (fun _ _ _ h => by cases h), rfl, rfl, rfl⟩

/-- invariant of the histories: between two reloader steps registrations may be in the channel
(`Pending`: in static mode the registrations of a load are only taken at the next reloader step); the
reloader is alive; the index is exact (the half the sort needs); in static mode nothing is pending -/
structure SInv (env : Env) (fuel : Nat) (x : St × RSt) : Prop where
  pending : Pending env fuel x.1 x.2.graph
  live : x.2.dead = false
  inv : x.2.graph.Inverse
  idle : x.2.static_ = true → x.2.toReload = []

theorem SInv.init (env : Env) (fuel : Nat) : SInv env fuel ({}, {}) :=
  ⟨Pending.of_settled rfl (fun _ _ _ h => by cases h), rfl, inverse_nil, fun _ => rfl⟩

theorem SInv.of_hinv {env : Env} {fuel : Nat} {x : St × RSt} (h : HInv env fuel x) (hI : x.2.graph.Inverse) :
    SInv env fuel x := ⟨h.pending, h.live, hI, fun _ => h.idle⟩

/-- `SInv` with `PendingC`: the invariant of the histories with `clear` / `load_owned` -/
structure SInvC (env : Env) (fuel : Nat) (x : St × RSt) : Prop where
  pending : PendingC env fuel x.1 x.2.graph
  live : x.2.dead = false
  inv : x.2.graph.Inverse
  idle : x.2.static_ = true → x.2.toReload = []

theorem SInv.toC {env : Env} {fuel : Nat} {x : St × RSt} (h : SInv env fuel x) (hreg : Reg x.1 x.2.graph) :
    SInvC env fuel x :=
  ⟨h.pending.toC hreg, h.live, h.inv, h.idle⟩

theorem SInvC.init (env : Env) (fuel : Nat) : SInvC env fuel ({}, {}) :=
  (SInv.init env fuel).toC (fun _ _ h => by cases h)

/-! ## The histories -/

/-- The histories of `C05_history_settled_partial`: `load`s and `hot_reload`s under one environment, every load
satisfying the named hypotheses `LoadOK` in the state it starts from. -/
inductive LoadHist (env : Env) (fuel : Nat) : List (Env × HOp) → St × RSt → Prop
  | nil (x : St × RSt) : LoadHist env fuel [] x
  | load (key : Key) (rest : List (Env × HOp)) (s : St) (r : RSt) :
      LoadOK env fuel s r key → LoadHist env fuel rest (hstep fuel (env, .api (.load key)) (s, r)) →
      LoadHist env fuel ((env, .api (.load key)) :: rest) (s, r)
  | hotReload (rest : List (Env × HOp)) (x : St × RSt) :
      LoadHist env fuel rest (hstep fuel (env, .hotReload) x) → LoadHist env fuel ((env, .hotReload) :: rest) x
  /-- `get_or_insert`: a static entry; it must not fill a key that was probed in vain -/
  | insert (key : Key) (v : Val) (rest : List (Env × HOp)) (s : St) (r : RSt) :
      NoProbedKeyFilled s (step env fuel s (.getOrInsert key v)).1 r.graph →
      NoPendingKeyFilled s (step env fuel s (.getOrInsert key v)).1 →
      LoadHist env fuel rest (hstep fuel (env, .api (.getOrInsert key v)) (s, r)) →
      LoadHist env fuel ((env, .api (.getOrInsert key v)) :: rest) (s, r)
  /-- `remove` of a key nothing registered (or pending) depends on -/
  | remove (key : Key) (rest : List (Env × HOp)) (s : St) (r : RSt) :
      NoDependentOn s r.graph key → LoadHist env fuel rest (hstep fuel (env, .api (.remove key)) (s, r)) →
      LoadHist env fuel ((env, .api (.remove key)) :: rest) (s, r)
  /-- `take` of a key nothing registered (or pending) depends on -/
  | take (key : Key) (rest : List (Env × HOp)) (s : St) (r : RSt) :
      NoDependentOn s r.graph key → LoadHist env fuel rest (hstep fuel (env, .api (.take key)) (s, r)) →
      LoadHist env fuel ((env, .api (.take key)) :: rest) (s, r)
  /-- an API operation that leaves the cache as it is (`get_cached`, `contains`) -/
  | look (op : Op) (rest : List (Env × HOp)) (x : St × RSt) :
      (step env fuel x.1 op).1 = x.1 → LoadHist env fuel rest x → LoadHist env fuel ((env, .api op) :: rest) x

/-- **The histories of the static-mode statement**: loads (and the other API operations `LoadHist`
admits), `hot_reload()`, notifications and the switch, all under the ONE environment `env`, every step
satisfying `StepOK` in the state it starts from. -/
inductive StaticHist (env : Env) (fuel : Nat) : List (Env × HOp) → St × RSt → Prop
  | nil (x : St × RSt) : StaticHist env fuel [] x
  | cons (op : HOp) (rest : List (Env × HOp)) (x : St × RSt) :
      StepOK env fuel op x → StaticHist env fuel rest (hstep fuel (env, op) x) →
      StaticHist env fuel ((env, op) :: rest) x

/-- the histories under ONE environment `env` every step of which satisfies `P` in the state it starts from -/
inductive HistP (P : HOp → St × RSt → Prop) (env : Env) (fuel : Nat) : List (Env × HOp) → St × RSt → Prop
  | nil (x : St × RSt) : HistP P env fuel [] x
  | cons (op : HOp) (rest : List (Env × HOp)) (x : St × RSt) :
      P op x → HistP P env fuel rest (hstep fuel (env, op) x) → HistP P env fuel ((env, op) :: rest) x

theorem HistP.mono {P Q : HOp → St × RSt → Prop} {env : Env} {fuel : Nat} (hPQ : ∀ op x, P op x → Q op x)
    {h : List (Env × HOp)} {x : St × RSt} (hh : HistP P env fuel h x) : HistP Q env fuel h x := by
  induction hh with
  | nil x => exact .nil x
  | cons op rest x hok _ ih => exact .cons op rest x (hPQ op x hok) ih

/-- every `StaticHist` is a `HistP StepOK` -/
theorem StaticHist.toP {env : Env} {fuel : Nat} {h : List (Env × HOp)} {x : St × RSt}
    (hh : StaticHist env fuel h x) : HistP (StepOK env fuel) env fuel h x := by
  induction hh with
  | nil x => exact .nil x
  | cons op rest x hok _ ih => exact .cons op rest x hok ih

/-! ## After every prefix of a history -/

/-- an invariant that every admitted step keeps holds after every prefix of the history, and the step
that follows the prefix is admitted there -/
theorem HistP.at {P : HOp → St × RSt → Prop} {I : St × RSt → Prop} {env : Env} {fuel : Nat}
    (hI : ∀ x op, I x → P op x → I (hstep fuel (env, op) x))
    {h : List (Env × HOp)} {x : St × RSt} (hh : HistP P env fuel h x) (hx : I x) :
    ∀ h1 h2, h = h1 ++ h2 → I (runH fuel h1 x) ∧ ∀ op h3, h2 = (env, op) :: h3 → P op (runH fuel h1 x) := by
  intro h1
  induction h1 generalizing h x with
  | nil =>
    rintro h2 rfl
    refine ⟨hx, fun op h3 e => ?_⟩
    subst e
    cases hh with
    | cons _ _ _ hok _ => exact hok
  | cons a h1 ih =>
    rintro h2 rfl
    cases hh with
    | cons op _ _ hok hr => exact ih hr (hI _ _ hx hok) h2 rfl

/-- **Histories whose steps satisfy `P`**, for every invariant `I` that the steps of `P` keep and that makes
the reloader steps of `P` end settled: the invariant holds at the end, and after EVERY reloader step of
the history the channel is drained and everything registered and cached is settled. -/
theorem histP_settled {I : St × RSt → Prop} {P : HOp → St × RSt → Prop} {env : Env} {fuel : Nat}
    (hI : ∀ x op, I x → P op x → I (hstep fuel (env, op) x))
    (hR : ∀ x op, op.isReloader = true → I x → P op x →
      Settled env fuel (hstep fuel (env, op) x).1 (hstep fuel (env, op) x).2.graph ∧
      (hstep fuel (env, op) x).1.out = [])
    {h : List (Env × HOp)} {x : St × RSt} (hh : HistP P env fuel h x) (hx : I x) :
    I (runH fuel h x) ∧
    ∀ h1 op h2, h = h1 ++ (env, op) :: h2 → op.isReloader = true →
      Settled env fuel (runH fuel (h1 ++ [(env, op)]) x).1 (runH fuel (h1 ++ [(env, op)]) x).2.graph ∧
      (runH fuel (h1 ++ [(env, op)]) x).1.out = [] ∧ I (runH fuel (h1 ++ [(env, op)]) x) ∧
      I (runH fuel h1 x) := by
  refine ⟨(HistP.at hI hh hx h [] (List.append_nil h).symm).1, fun h1 op h2 e hop => ?_⟩
  obtain ⟨j1, j2⟩ := HistP.at hI hh hx h1 _ e
  rw [runH_append]
  exact ⟨(hR _ op hop j1 (j2 op h2 rfl)).1, (hR _ op hop j1 (j2 op h2 rfl)).2, hI _ op j1 (j2 op h2 rfl), j1⟩

/-! ## `Reg` through a reloader step: the drain turns registrations into typed nodes, a pass keeps them -/

/-- `Reg` with the channel drained: every cached dynamic asset is registered -/
def AllReg (s : St) (g : Graph) : Prop :=
  ∀ k c, s.lookup k = some c → c.dyn = true → (g.node (.asset k)).typed = true

theorem AllReg.reg {s : St} {g : Graph} (h : AllReg s g) : Reg s g := fun k c hc hd =>
  Or.inl ((node_typed_iff g _).mp (h k c hc hd))

theorem Reg.drain {s : St} {r : RSt} (h : Reg s r.graph) :
    AllReg (processMsgs s r).1 (processMsgs s r).2.graph := by
  rw [processMsgs_eq]
  intro k c hc hd
  rw [(drain_node k s.out r).1]
  rcases h k c hc hd with ⟨node, h1, h2⟩ | ⟨D, h1⟩
  · rw [node_of_get h1, h2, Bool.true_or]
  · obtain ⟨D', hl⟩ := lastReg_of_mem h1
    rw [hl, Option.isSome_some, Bool.or_true]

/-- one key of a pass whose re-evaluation is a tracked hit-only run that returns keeps `AllReg` -/
theorem reloadAll_one_allReg {env : Env} {fuel : Nat} {k : Key} {rest : List Key} {s : St} {r : RSt}
    (h : AllReg s r.graph) (hdead : r.dead = false)
    (hmiss : ∀ node c, PassStep.Performs ⟨k, rest, s, r⟩ node c → reloadHit env fuel s k = true)
    (hends : ∀ node c, PassStep.Performs ⟨k, rest, s, r⟩ node c →
      (∃ v, reloadOut env fuel s k = .ok v) ∨ (∃ e, reloadOut env fuel s k = .err e)) :
    AllReg (reloadAll env fuel [k] (s, r)).1 (reloadAll env fuel [k] (s, r)).2.graph ∧
    (reloadAll env fuel [k] (s, r)).2.dead = false := by
  have hv := reloadAll_one_view hdead hmiss hends
  generalize reloadAll env fuel [k] (s, r) = y at hv ⊢
  cases hv with
  | skip hno => exact ⟨h, hdead⟩
  | ok node c v s2 hp hh ho h2k h2o hout =>
    refine ⟨fun k' c' hc' hd' => (typed_insertAsset r.graph _ _ _).trans ?_, hdead⟩
    by_cases hk : k' = k
    · rw [hk, decide_eq_true rfl, Bool.true_or]
    · rw [h k' c' ((h2o k' hk).symm.trans hc') hd', Bool.or_true]
  | err node c e s2 hp hh ho h2 hout =>
    exact ⟨fun k' c' hc' hd' => (typed_addDeps r.graph _ _ _).trans (h k' c' ((h2 k').symm.trans hc') hd'), hdead⟩

/-- `run_update` whose re-evaluations are tracked hit-only runs that return keeps `AllReg` -/
theorem runUpdate_allReg {env : Env} {fuel : Nat} {s : St} {r : RSt} (h : AllReg s r.graph) (hlive : r.dead = false)
    (hmiss : NoMissInPass env fuel (updateSteps env fuel s r))
    (hret : ReloadsReturn env fuel (updateSteps env fuel s r)) :
    AllReg (runUpdate env fuel s r).1 (runUpdate env fuel s r).2.graph := by
  rcases runUpdate_form env fuel s r with ⟨_, e⟩ | ⟨keys, hk, e⟩
  · rw [e]; exact h
  · rw [updateSteps_eq hk] at hmiss hret
    rw [e]
    exact (reloadAll_steps_ind (env := env) (fuel := fuel) (· ∈ passSteps env fuel keys (s, { r with toReload := [] }))
      (fun _ x => AllReg x.1 x.2.graph ∧ x.2.dead = false)
      (fun _ rest _ _ hst hQ => reloadAll_one_allReg (rest := rest) hQ.1 hQ.2 (hmiss _ hst) (hret _ hst))
      keys (s, { r with toReload := [] }) (fun _ hst => hst) ⟨h, hlive⟩).1

/-! ## One step of a history -/

/-- **A reloader step** (`hot_reload()`, `handle_events`, the switch) under the unchanged environment, from
a state whose drain is settled (`Pending.drain`, `PendingC.drain`): afterwards the channel is drained and
everything registered and cached is settled; the bookkeeping of the invariants goes through. -/
theorem reloader_step {env : Env} (hS : env.Steady) {fuel : Nat} {x : St × RSt} (op : HOp) (hop : op.isReloader = true)
    (hset : Settled env fuel (processMsgs x.1 x.2).1 (processMsgs x.1 x.2).2.graph)
    (hlive : x.2.dead = false) (hinv : x.2.graph.Inverse) (hidle : x.2.static_ = true → x.2.toReload = [])
    (hok : op.runsPass x.2 = true → (prePass op x).2.toReload ≠ [] → PassOK env fuel (prePass op x)) :
    Settled env fuel (hstep fuel (env, op) x).1 (hstep fuel (env, op) x).2.graph ∧
    (hstep fuel (env, op) x).1.out = [] ∧ (hstep fuel (env, op) x).2.dead = false ∧
    (hstep fuel (env, op) x).2.graph.Inverse ∧
    ((hstep fuel (env, op) x).2.static_ = true → (hstep fuel (env, op) x).2.toReload = []) ∧
    (Reg x.1 x.2.graph → AllReg (hstep fuel (env, op) x).1 (hstep fuel (env, op) x).2.graph) := by
  obtain ⟨p1, p2, p3⟩ := prePass_facts op hop x
  have hsetP : Settled env fuel (prePass op x).1 (prePass op x).2.graph := by rw [p1, p2]; exact hset
  have hinvP : (prePass op x).2.graph.Inverse := by rw [p2]; exact processMsgs_inverse _ _ hinv
  have hliveP : (prePass op x).2.dead = false := p3.trans hlive
  have houtP : (prePass op x).1.out = [] := by rw [p1]; rfl
  have hregP : Reg x.1 x.2.graph → AllReg (prePass op x).1 (prePass op x).2.graph := fun h => by
    rw [p1, p2]; exact h.drain
  cases hrp : op.runsPass x.2 with
  | false =>
    rw [hstep_noPass env fuel op hop x hlive hrp]
    exact ⟨hsetP, houtP, hliveP, hinvP, prePass_idle op x hrp hidle, hregP⟩
  | true =>
    by_cases ht : (prePass op x).2.toReload = []
    · rw [hstep_pass env fuel op x hlive hrp, runUpdate_idle env fuel _ _ ht, processMsgs_nil _ _ houtP]
      exact ⟨hsetP, houtP, hliveP, hinvP, fun _ => rfl, hregP⟩
    · have hP := hok hrp ht
      obtain ⟨c1, c2, c3, c4, _, c6⟩ := hstep_pass_converges hS hS (SameLoaders.refl hS) (changed := []) op hset hinv hlive hrp
        (fun _ _ _ => rfl) (fun _ _ => rfl) (fun d hd => by cases hd) hP
      refine ⟨c1, c3, c2, c6, fun _ => c4, fun h => ?_⟩
      rw [hstep_pass env fuel op x hlive hrp]
      exact (runUpdate_allReg (hregP h) hliveP hP.noMiss hP.returns).reg.drain

theorem SInvC.step_reloader {env : Env} (hS : env.Steady) {fuel : Nat} {x : St × RSt} (h : SInvC env fuel x)
    (op : HOp) (hop : op.isReloader = true)
    (hok : op.runsPass x.2 = true → (prePass op x).2.toReload ≠ [] → PassOK env fuel (prePass op x)) :
    Settled env fuel (hstep fuel (env, op) x).1 (hstep fuel (env, op) x).2.graph ∧
    (hstep fuel (env, op) x).1.out = [] ∧ SInvC env fuel (hstep fuel (env, op) x) := by
  obtain ⟨hset, hout, hlive, hinv, hidle, hreg⟩ := reloader_step hS op hop (h.pending.drain hS) h.live h.inv h.idle hok
  exact ⟨hset, hout, ⟨PendingC.of_settled hout hset (hreg h.pending.reg).reg, hlive, hinv, hidle⟩⟩

/-- an API step admitted by `StepOK` keeps `Pending` -/
theorem api_pending {env : Env} (hS : env.Steady) {fuel : Nat} {s : St} {r : RSt}
    (hp : Pending env fuel s r.graph) (o : Op) (hok : StepOK env fuel (.api o) (s, r)) :
    Pending env fuel (step env fuel s o).1 r.graph := by
  rcases hok with e | hok
  · rw [show (step env fuel s o).1 = s from e]; exact hp
  cases o with
  | load key => exact load_pending hS key hp hok
  | getOrInsert key v =>
    obtain ⟨f1, f2, f3⟩ := step_getOrInsert_facts env fuel s key v
    exact hp.extend_static hS f1 f2 f3 hok.1 hok.2
  | remove key =>
    obtain ⟨f1, f2, f3⟩ := step_remove_facts env fuel s key
    exact hp.remove hS f1 f2 f3 hok
  | take key =>
    obtain ⟨f1, f2, f3⟩ := step_take_facts env fuel s key
    exact hp.remove hS f1 f2 f3 hok
  | _ => exact hok.elim

/-- **Every step that satisfies `StepOK` keeps `SInv`** (an API step leaves the reloader's data alone, and
registrations pile up in the channel), and after a reloader step everything is settled. -/
theorem SInv.step {env : Env} (hS : env.Steady) {fuel : Nat} {x : St × RSt} (h : SInv env fuel x)
    (op : HOp) (hok : StepOK env fuel op x) :
    SInv env fuel (hstep fuel (env, op) x) ∧
    (op.isReloader = true →
      Settled env fuel (hstep fuel (env, op) x).1 (hstep fuel (env, op) x).2.graph ∧
      (hstep fuel (env, op) x).1.out = []) := by
  cases op with
  | api o =>
    obtain ⟨s, r⟩ := x
    exact ⟨⟨api_pending hS h.pending o hok, h.live, h.inv, h.idle⟩, fun e => nomatch e⟩
  | _ =>
    obtain ⟨hset, hout, hlive, hinv, hidle, _⟩ := reloader_step hS _ rfl (h.pending.drain hS) h.live h.inv h.idle hok
    exact ⟨⟨Pending.of_settled hout hset, hlive, hinv, hidle⟩, fun _ => ⟨hset, hout⟩⟩

/-- an API operation that satisfies `ApiOKC` keeps `PendingC` -/
theorem apiC_pending {env : Env} (hS : env.Steady) {fuel : Nat} {s : St} {r : RSt}
    (hp : PendingC env fuel s r.graph) (o : Op) (hok : ApiOKC env fuel o (s, r)) :
    PendingC env fuel (step env fuel s o).1 r.graph := by
  cases o with
  | load key => exact load_pendingC hS key hp hok
  | getOrInsert key v =>
    obtain ⟨f1, f2, f3⟩ := step_getOrInsert_facts env fuel s key v
    exact hp.extend hS f1 (new := []) (f2.trans (List.append_nil _).symm) (LastGood.nil _ _ _)
      (fun k c hc hd => .inl ((f3 k c hc).resolve_right (by rw [hd]; exact Bool.noConfusion))) hok.1 hok.2
  | remove key =>
    obtain ⟨f1, f2, f3⟩ := step_remove_facts env fuel s key
    exact hp.remove hS f1 f2 f3 hok
  | take key =>
    obtain ⟨f1, f2, f3⟩ := step_take_facts env fuel s key
    exact hp.remove hS f1 f2 f3 hok
  | clear => exact PendingC.empty (step_clear_lookup env fuel s)
  | _ => exact hok.elim

/-- **Every step that satisfies `StepOKO` keeps `SInvC`.** -/
theorem SInvC.stepO {env : Env} (hS : env.Steady) {fuel : Nat} {x : St × RSt} (h : SInvC env fuel x)
    (op : HOp) (hok : StepOKO env fuel op x) : SInvC env fuel (hstep fuel (env, op) x) := by
  cases op with
  | api o =>
    obtain ⟨s, r⟩ := x
    refine ⟨?_, h.live, h.inv, h.idle⟩
    show PendingC env fuel (Model.step env fuel s o).1 r.graph
    rcases hok.api_cases with e | hC | ⟨key, rfl, hO⟩
    · rw [show (Model.step env fuel s o).1 = s from e]; exact h.pending
    · exact apiC_pending hS h.pending o hC
    · exact loadOwned_pendingC hS key h.pending hO
  | _ => exact (h.step_reloader hS _ rfl hok).2.2

theorem SInvC.step {env : Env} (hS : env.Steady) {fuel : Nat} {x : St × RSt} (h : SInvC env fuel x)
    (op : HOp) (hok : StepOKC env fuel op x) : SInvC env fuel (hstep fuel (env, op) x) :=
  h.stepO hS op hok.toO

/-! ## The history theorems -/

/-- **Histories with `clear` and `load_owned`**: the invariant holds at the end, and after EVERY reloader
step of the history the channel is drained and everything registered and cached is settled. -/
theorem histO_settled {env : Env} (hS : env.Steady) {fuel : Nat} {h : List (Env × HOp)} {x : St × RSt}
    (hh : HistP (StepOKO env fuel) env fuel h x) (hx : SInvC env fuel x) :
    SInvC env fuel (runH fuel h x) ∧
    ∀ h1 op h2, h = h1 ++ (env, op) :: h2 → op.isReloader = true →
      Settled env fuel (runH fuel (h1 ++ [(env, op)]) x).1 (runH fuel (h1 ++ [(env, op)]) x).2.graph ∧
      (runH fuel (h1 ++ [(env, op)]) x).1.out = [] ∧ SInvC env fuel (runH fuel (h1 ++ [(env, op)]) x) ∧
      SInvC env fuel (runH fuel h1 x) :=
  histP_settled (fun _ op hx hok => hx.stepO hS op hok)
    (fun _ op hop hx hok => ⟨(hx.step_reloader hS op hop (hok.pass hop)).1, (hx.step_reloader hS op hop (hok.pass hop)).2.1⟩)
    hh hx

/-- **Histories with `clear`** -/
theorem histC_settled {env : Env} (hS : env.Steady) {fuel : Nat} {h : List (Env × HOp)} {x : St × RSt}
    (hh : HistP (StepOKC env fuel) env fuel h x) (hx : SInvC env fuel x) :
    SInvC env fuel (runH fuel h x) ∧
    ∀ h1 op h2, h = h1 ++ (env, op) :: h2 → op.isReloader = true →
      Settled env fuel (runH fuel (h1 ++ [(env, op)]) x).1 (runH fuel (h1 ++ [(env, op)]) x).2.graph ∧
      (runH fuel (h1 ++ [(env, op)]) x).1.out = [] ∧ SInvC env fuel (runH fuel (h1 ++ [(env, op)]) x) ∧
      SInvC env fuel (runH fuel h1 x) :=
  histO_settled hS (hh.mono (fun _ _ => StepOKC.toO)) hx

/-- **Histories in which the reloader may be switched to static mode**: the invariant holds at the end,
and after EVERY reloader step of the history — every `hot_reload()`, every batch of events (in static
mode: applied at once; in local mode: only taken), every `enhance_hot_reloading` — the channel is
drained, everything registered and cached is settled, the reloader is alive, and in static mode nothing
is pending. -/
theorem static_hist_settled {env : Env} (hS : env.Steady) {fuel : Nat} {h : List (Env × HOp)} {x : St × RSt}
    (hh : StaticHist env fuel h x) (hx : SInv env fuel x) :
    SInv env fuel (runH fuel h x) ∧
    ∀ h1 op h2, h = h1 ++ (env, op) :: h2 → op.isReloader = true →
      Settled env fuel (runH fuel (h1 ++ [(env, op)]) x).1 (runH fuel (h1 ++ [(env, op)]) x).2.graph ∧
      (runH fuel (h1 ++ [(env, op)]) x).1.out = [] ∧ SInv env fuel (runH fuel (h1 ++ [(env, op)]) x) := by
  obtain ⟨i1, i2⟩ := histP_settled (fun _ op hx hok => (hx.step hS op hok).1)
    (fun _ op hop hx hok => (hx.step hS op hok).2 hop) hh.toP hx
  exact ⟨i1, fun h1 op h2 e hop => ⟨(i2 h1 op h2 e hop).1, (i2 h1 op h2 e hop).2.1, (i2 h1 op h2 e hop).2.2.1⟩⟩

/-- the invariant holds after every prefix of the history -/
theorem static_hist_prefix {env : Env} (hS : env.Steady) {fuel : Nat} {h : List (Env × HOp)} {x : St × RSt}
    (hh : StaticHist env fuel h x) (hx : SInv env fuel x) :
    ∀ h1 h2, h = h1 ++ h2 → SInv env fuel (runH fuel h1 x) :=
  fun h1 h2 e => (HistP.at (fun _ op hx hok => (hx.step hS op hok).1) hh.toP hx h1 h2 e).1

/-! ## Histories of loads and `hot_reload()`s

No pass ever runs (`HInv.idle`): a `hot_reload()` only drains the channel, and the index need not be exact. -/

/-- a `hot_reload` step: afterwards the channel is drained and everything is settled -/
theorem HInv.step_hotReload {env : Env} (hS : env.Steady) {fuel : Nat} {x : St × RSt} (h : HInv env fuel x) :
    Settled env fuel (hstep fuel (env, .hotReload) x).1 (hstep fuel (env, .hotReload) x).2.graph ∧
    (hstep fuel (env, .hotReload) x).1.out = [] ∧ HInv env fuel (hstep fuel (env, .hotReload) x) := by
  obtain ⟨s, r⟩ := x
  have e : hstep fuel (env, .hotReload) (s, r) = processMsgs s r := hotReload_idle_eq env fuel s r h.live h.idle
  have hset := h.pending.drain hS
  rw [e]
  exact ⟨hset, rfl, Pending.of_settled rfl hset, (processMsgs_dead s r).trans h.live,
    processMsgs_toReload_nil s r h.idle, (processMsgs_static s r).trans h.local_⟩

theorem HInv.step_load {env : Env} (hS : env.Steady) {fuel : Nat} {s : St} {r : RSt} (h : HInv env fuel (s, r))
    {key : Key} (hok : LoadOK env fuel s r key) : HInv env fuel (hstep fuel (env, .api (.load key)) (s, r)) :=
  ⟨api_pending hS h.pending (.load key) (.inr hok), h.live, h.idle, h.local_⟩

theorem HInv.step_insert {env : Env} (hS : env.Steady) {fuel : Nat} {s : St} {r : RSt} (h : HInv env fuel (s, r))
    {key : Key} {v : Val}
    (hfill : NoProbedKeyFilled s (step env fuel s (.getOrInsert key v)).1 r.graph)
    (hfillM : NoPendingKeyFilled s (step env fuel s (.getOrInsert key v)).1) :
    HInv env fuel (hstep fuel (env, .api (.getOrInsert key v)) (s, r)) :=
  ⟨api_pending hS h.pending (.getOrInsert key v) (.inr ⟨hfill, hfillM⟩), h.live, h.idle, h.local_⟩

theorem HInv.step_remove {env : Env} (hS : env.Steady) {fuel : Nat} {s : St} {r : RSt} (h : HInv env fuel (s, r))
    {key : Key} (hdep : NoDependentOn s r.graph key) :
    HInv env fuel (hstep fuel (env, .api (.remove key)) (s, r)) :=
  ⟨api_pending hS h.pending (.remove key) (.inr hdep), h.live, h.idle, h.local_⟩

theorem HInv.step_take {env : Env} (hS : env.Steady) {fuel : Nat} {s : St} {r : RSt} (h : HInv env fuel (s, r))
    {key : Key} (hdep : NoDependentOn s r.graph key) :
    HInv env fuel (hstep fuel (env, .api (.take key)) (s, r)) :=
  ⟨api_pending hS h.pending (.take key) (.inr hdep), h.live, h.idle, h.local_⟩

/-- `remove` of a key nothing depends on keeps `Settled` (channel drained) -/
theorem remove_keeps_settled {env : Env} (hS : env.Steady) {fuel : Nat} {x : St × RSt} {key : Key}
    (hinv : HInv env fuel x) (hout : x.1.out = []) (hdep : NoDependentOn x.1 x.2.graph key) :
    Settled env fuel (hstep fuel (env, .api (.remove key)) x).1 (hstep fuel (env, .api (.remove key)) x).2.graph := by
  obtain ⟨s, r⟩ := x
  exact (HInv.step_remove hS hinv hdep).pending.but.drained ((step_remove_facts env fuel s key).1.trans hout)

/-- a history of `LoadHist` from a state of `HInv` is one of `StaticHist` (its `hot_reload()`s have nothing
to reload, which needs no hypothesis), and `HInv` holds after every prefix of it -/
theorem LoadHist.toStatic {env : Env} (hS : env.Steady) {fuel : Nat} {h : List (Env × HOp)} {x : St × RSt}
    (hh : LoadHist env fuel h x) (hx : HInv env fuel x) :
    StaticHist env fuel h x ∧ ∀ h1 h2, h = h1 ++ h2 → HInv env fuel (runH fuel h1 x) := by
  -- one more step in front: it is admitted, and the invariant holds before it
  have cons : ∀ {op : HOp} {rest : List (Env × HOp)} {x : St × RSt}, HInv env fuel x → StepOK env fuel op x →
      (StaticHist env fuel rest (hstep fuel (env, op) x) ∧
        ∀ h1 h2, rest = h1 ++ h2 → HInv env fuel (runH fuel h1 (hstep fuel (env, op) x))) →
      StaticHist env fuel ((env, op) :: rest) x ∧ ∀ h1 h2, (env, op) :: rest = h1 ++ h2 → HInv env fuel (runH fuel h1 x) := by
    refine fun hx hok i => ⟨.cons _ _ _ hok i.1, fun h1 h2 e => ?_⟩
    cases h1 with
    | nil => exact hx
    | cons a h1 =>
      obtain ⟨rfl, e'⟩ := List.cons.inj e
      exact i.2 h1 h2 e'
  induction hh with
  | nil x =>
    refine ⟨.nil x, fun h1 h2 e => ?_⟩
    obtain ⟨rfl, rfl⟩ := List.append_eq_nil_iff.mp e.symm
    exact hx
  | load key rest s r hok _ ih => exact cons hx (.inr hok) (ih (hx.step_load hS hok))
  | hotReload rest x _ ih =>
    exact cons hx (.of_idle rfl (processMsgs_toReload_nil _ _ hx.idle)) (ih (hx.step_hotReload hS).2.2)
  | insert key v rest s r h1 h2 _ ih => exact cons hx (.inr ⟨h1, h2⟩) (ih (hx.step_insert hS h1 h2))
  | remove key rest s r hd _ ih => exact cons hx (.inr hd) (ih (hx.step_remove hS hd))
  | take key rest s r hd _ ih => exact cons hx (.inr hd) (ih (hx.step_take hS hd))
  | look op rest x hop _ ih =>
    have e : hstep fuel (env, .api op) x = x := by
      obtain ⟨s, r⟩ := x
      exact congrArg (·, r) hop
    exact cons hx (.inl hop) (by rw [e]; exact ih hx)

/-- every history of `LoadHist` is one of `StaticHist` -/
theorem StaticHist.of_loadHist {env : Env} (hS : env.Steady) {fuel : Nat} {h : List (Env × HOp)} {x : St × RSt}
    (hh : LoadHist env fuel h x) (hx : HInv env fuel x) : StaticHist env fuel h x :=
  (hh.toStatic hS hx).1

/-- **Histories of loads and `hot_reload`s**: the invariant holds at the end, and after every
`hot_reload` step of the history the channel is drained and everything registered and cached is settled. -/
theorem loads_settle {env : Env} (hS : env.Steady) {fuel : Nat} {h : List (Env × HOp)} {x : St × RSt}
    (hh : LoadHist env fuel h x) (hx : HInv env fuel x) :
    HInv env fuel (runH fuel h x) ∧
    ∀ h1 h2, h = h1 ++ (env, .hotReload) :: h2 →
      Settled env fuel (runH fuel (h1 ++ [(env, .hotReload)]) x).1 (runH fuel (h1 ++ [(env, .hotReload)]) x).2.graph ∧
      (runH fuel (h1 ++ [(env, .hotReload)]) x).1.out = [] := by
  have hp := (hh.toStatic hS hx).2
  refine ⟨hp h [] (List.append_nil h).symm, fun h1 h2 e => ?_⟩
  rw [runH_append]
  exact ⟨((hp h1 _ e).step_hotReload hS).1, ((hp h1 _ e).step_hotReload hS).2.1⟩

/-! ## Executable checks of the named hypotheses (for concrete instances) -/

def depsStayB (s t : St) (D : List Dep) : Bool :=
  D.all fun d =>
    match d with
    | .asset y => (s.lookup y).isSome || (t.lookup y).isNone
    | _ => true

theorem depsStay_of_check {s t : St} {D : List Dep} (h : depsStayB s t D = true) :
    ∀ y, Dep.asset y ∈ D → s.lookup y = none → t.lookup y = none := by
  intro y hy hn
  unfold depsStayB at h
  rw [List.all_eq_true] at h
  have h1 := h _ hy
  simp only [hn, Option.isSome_none, Bool.false_or, Option.isNone_iff_eq_none] at h1
  exact h1

theorem depsStay_check_of {s t : St} {D : List Dep}
    (h : ∀ y, Dep.asset y ∈ D → s.lookup y = none → t.lookup y = none) : depsStayB s t D = true := by
  unfold depsStayB
  rw [List.all_eq_true]
  intro d hd
  cases d with
  | file id ext => rfl
  | dir id => rfl
  | asset y =>
    simp only []
    cases hy : s.lookup y with
    | some c => rfl
    | none => simp only [Option.isSome_none, Bool.false_or, Option.isNone_iff_eq_none]; exact h y hd hy

/-- `NoProbedKeyFilled`, as a check over the entries of the graph -/
def noProbedKeyFilledB (s t : St) (g : Graph) : Bool :=
  g.all fun x =>
    match x.1 with
    | .asset k =>
      (match s.lookup k with
       | some c => !(x.2.typed && c.dyn) || depsStayB s t x.2.deps
       | none => true)
    | _ => true

theorem noProbedKeyFilled_of_check {s t : St} {g : Graph} (h : noProbedKeyFilledB s t g = true) :
    NoProbedKeyFilled s t g := by
  intro k node c hg ht hc hd
  unfold noProbedKeyFilledB at h
  rw [List.all_eq_true] at h
  have h1 := h (.asset k, node) (get_some_mem hg)
  simp only [hc, ht, hd, Bool.and_self, Bool.not_true, Bool.false_or] at h1
  exact depsStay_of_check h1

/-- `NoPendingKeyFilled`, as a check over the channel -/
def noPendingKeyFilledB (s t : St) : Bool :=
  s.out.all fun m =>
    match m with
    | .addAsset _ D => depsStayB s t D
    | .clear => true

theorem noPendingKeyFilled_of_check {s t : St} (h : noPendingKeyFilledB s t = true) : NoPendingKeyFilled s t := by
  intro k D hm
  unfold noPendingKeyFilledB at h
  rw [List.all_eq_true] at h
  exact depsStay_of_check (h _ hm)

/-- the checks are exact: a violated check refutes the hypothesis -/
theorem noPendingKeyFilled_check_of {s t : St} (h : NoPendingKeyFilled s t) : noPendingKeyFilledB s t = true := by
  unfold noPendingKeyFilledB
  rw [List.all_eq_true]
  intro m hm
  cases m with
  | clear => rfl
  | addAsset k D => exact depsStay_check_of (h k D hm)

/-- `LoadOK`, as a check -/
def loadOKB (env : Env) (fuel : Nat) (s : St) (r : RSt) (key : Key) : Bool :=
  cleanRun env (step env fuel s (.load key)).1 fuel { s with recs := [] } (.load key Prog.ret') &&
  noProbedKeyFilledB s (step env fuel s (.load key)).1 r.graph &&
  noPendingKeyFilledB s (step env fuel s (.load key)).1

theorem loadOK_of_check {env : Env} {fuel : Nat} {s : St} {r : RSt} {key : Key}
    (h : loadOKB env fuel s r key = true) : LoadOK env fuel s r key := by
  unfold loadOKB at h
  simp only [Bool.and_eq_true] at h
  exact ⟨h.1.1, noProbedKeyFilled_of_check h.1.2, noPendingKeyFilled_of_check h.2⟩

/-- `NoDependentOn`, as a check -/
def noDependentOnB (s : St) (g : Graph) (key : Key) : Bool :=
  (g.all fun x =>
    match x.1 with
    | .asset k =>
      (match s.lookup k with
       | some c => !(x.2.typed && c.dyn) || decide (k = key) || !decide (Dep.asset key ∈ x.2.deps)
       | none => true)
    | _ => true) &&
  (s.out.all fun m =>
    match m with
    | .addAsset k D => !decide (k = key) && !decide (Dep.asset key ∈ D)
    | .clear => true)

theorem noDependentOn_of_check {s : St} {g : Graph} {key : Key} (h : noDependentOnB s g key = true) :
    NoDependentOn s g key := by
  unfold noDependentOnB at h
  simp only [Bool.and_eq_true, List.all_eq_true] at h
  obtain ⟨h1, h2⟩ := h
  constructor
  · intro k node c hg ht hc hd hk hmem
    have := h1 (.asset k, node) (get_some_mem hg)
    simp only [hc, ht, hd, Bool.and_self, Bool.not_true, Bool.false_or, hk, decide_false, hmem, decide_true] at this
    cases this
  · intro k D hm
    have := h2 _ hm
    simp only [Bool.and_eq_true, Bool.not_eq_true', decide_eq_false_iff_not] at this
    exact this

/-- `NoLivePendingKeyFilled`, as a check over the channel -/
def noLivePendingKeyFilledB (s t : St) : Bool :=
  s.out.all fun m =>
    match m with
    | .addAsset k D =>
      (match s.lookup k with
       | some c => !c.dyn || depsStayB s t D
       | none => true)
    | .clear => true

theorem noLivePendingKeyFilled_of_check {s t : St} (h : noLivePendingKeyFilledB s t = true) :
    NoLivePendingKeyFilled s t := by
  intro k D c hm hc hd
  unfold noLivePendingKeyFilledB at h
  rw [List.all_eq_true] at h
  have h1 := h _ hm
  simp only [hc, hd, Bool.not_true, Bool.false_or] at h1
  exact depsStay_of_check h1

theorem noLivePendingKeyFilled_check_of {s t : St} (h : NoLivePendingKeyFilled s t) :
    noLivePendingKeyFilledB s t = true := by
  unfold noLivePendingKeyFilledB
  rw [List.all_eq_true]
  intro m hm
  cases m with
  | clear => rfl
  | addAsset k D =>
    simp only []
    cases hc : s.lookup k with
    | none => rfl
    | some c =>
      simp only []
      cases hd : c.dyn with
      | false => rfl
      | true => simp only [Bool.not_true, Bool.false_or]; exact depsStay_check_of (h k D c hm hc hd)

/-- `LoadOKC`, as a check -/
def loadOKCB (env : Env) (fuel : Nat) (s : St) (r : RSt) (key : Key) : Bool :=
  cleanRun env (step env fuel s (.load key)).1 fuel { s with recs := [] } (.load key Prog.ret') &&
  noProbedKeyFilledB s (step env fuel s (.load key)).1 r.graph &&
  noLivePendingKeyFilledB s (step env fuel s (.load key)).1

theorem loadOKC_of_check {env : Env} {fuel : Nat} {s : St} {r : RSt} {key : Key}
    (h : loadOKCB env fuel s r key = true) : LoadOKC env fuel s r key := by
  unfold loadOKCB at h
  simp only [Bool.and_eq_true] at h
  exact ⟨h.1.1, noProbedKeyFilled_of_check h.1.2, noLivePendingKeyFilled_of_check h.2⟩

/-- `NoDependentOnC`, as a check -/
def noDependentOnCB (s : St) (g : Graph) (key : Key) : Bool :=
  (g.all fun x =>
    match x.1 with
    | .asset k =>
      (match s.lookup k with
       | some c => !(x.2.typed && c.dyn) || decide (k = key) || !decide (Dep.asset key ∈ x.2.deps)
       | none => true)
    | _ => true) &&
  (s.out.all fun m =>
    match m with
    | .addAsset k D =>
      (match s.lookup k with
       | some c => !c.dyn || decide (k = key) || !decide (Dep.asset key ∈ D)
       | none => true)
    | .clear => true)

theorem noDependentOnC_of_check {s : St} {g : Graph} {key : Key} (h : noDependentOnCB s g key = true) :
    NoDependentOnC s g key := by
  unfold noDependentOnCB at h
  simp only [Bool.and_eq_true, List.all_eq_true] at h
  obtain ⟨h1, h2⟩ := h
  constructor
  · intro k node c hg ht hc hd hk hmem
    have := h1 (.asset k, node) (get_some_mem hg)
    simp only [hc, ht, hd, Bool.and_self, Bool.not_true, Bool.false_or, hk, decide_false, hmem, decide_true] at this
    cases this
  · intro k D c hm hc hd hk hmem
    have := h2 _ hm
    simp only [hc, hd, Bool.not_true, Bool.false_or, hk, decide_false, hmem, decide_true] at this
    cases this

/-- `OwnedAgrees`, as a check -/
def ownedAgreesB (env : Env) (fuel : Nat) (s : St) (key : Key) : Bool :=
  match s.lookup key with
  | some c =>
    !c.dyn ||
      (match (ownedBody env fuel s key).2 with
       | .ok v => decide (v = c.val)
       | _ => true)
  | none => true

theorem ownedAgrees_of_check {env : Env} {fuel : Nat} {s : St} {key : Key} (h : ownedAgreesB env fuel s key = true) :
    OwnedAgrees env fuel s key := by
  intro c v hc hd hv
  unfold ownedAgreesB at h
  rw [hc, hv] at h
  simpa [hd] using h

theorem ownedAgrees_check_of {env : Env} {fuel : Nat} {s : St} {key : Key} (h : OwnedAgrees env fuel s key) :
    ownedAgreesB env fuel s key = true := by
  unfold ownedAgreesB
  cases hc : s.lookup key with
  | none => rfl
  | some c =>
    simp only []
    cases hd : c.dyn with
    | false => rfl
    | true =>
      simp only [Bool.not_true, Bool.false_or]
      cases hv : (ownedBody env fuel s key).2 with
      | ok v => simp only [decide_eq_true_eq]; exact h c v hc hd hv
      | err e => rfl
      | panicked => rfl
      | diverged => rfl

/-- `LoadOwnedOK`, as a check -/
def loadOwnedOKB (env : Env) (fuel : Nat) (s : St) (r : RSt) (key : Key) : Bool :=
  recordsAsset (env.types key.ty).hot env.hasReloader &&
  cleanRun env (step env fuel s (.loadOwned key)).1 (fuel - 1) s.fresh ((env.types key.ty).prog key.id) &&
  noProbedKeyFilledB s (step env fuel s (.loadOwned key)).1 r.graph &&
  noLivePendingKeyFilledB s (step env fuel s (.loadOwned key)).1

theorem loadOwnedOK_of_check {env : Env} {fuel : Nat} {s : St} {r : RSt} {key : Key}
    (h : loadOwnedOKB env fuel s r key = true) : LoadOwnedOK env fuel s r key := by
  unfold loadOwnedOKB at h
  simp only [Bool.and_eq_true] at h
  exact ⟨⟨h.1.1.1, h.1.1.2⟩, noProbedKeyFilled_of_check h.1.2, noLivePendingKeyFilled_of_check h.2⟩

end AmVerif.Model
