import AmVerif.Model.Watch
import AmVerif.Lemmas.Source
/-! Helper lemmas for C12: `splitLast`, OS strings, paths, the id builder (ids and segments through the
lemmas of `Lemmas/Source.lean`), the component loop, `id_of_path` on `root ++ rel ++ [last]`, and the
components `path_of_entry` pushes. -/
namespace AmVerif.Model.Watch
open AmVerif.Gen

/-! ### splitLast -/

theorem splitLast_eq_none {α} [DecidableEq α] (d : α) (l : List α) : splitLast d l = none ↔ d ∉ l := by
  induction l with
  | nil => simp [splitLast]
  | cons c cs ih =>
    rw [splitLast, List.mem_cons, not_or, ← ih]
    cases splitLast d cs with
    | some ba => simp
    | none => simp [eq_comm]

theorem splitLast_append {α} [DecidableEq α] (d : α) (b a : List α) (h : d ∉ a) :
    splitLast d (b ++ d :: a) = some (b, a) := by
  induction b with
  | nil => simp [splitLast, (splitLast_eq_none d a).mpr h]
  | cons c cs ih => simp [splitLast, ih]

theorem splitLast_eq_some {α} [DecidableEq α] (d : α) (l b a : List α) (h : splitLast d l = some (b, a)) :
    l = b ++ d :: a ∧ d ∉ a := by
  induction l generalizing b with
  | nil => cases h
  | cons c cs ih =>
    rw [splitLast] at h
    cases hs : splitLast d cs with
    | some ba =>
      rw [hs] at h
      cases h
      obtain ⟨e, hn⟩ := ih _ hs
      exact ⟨congrArg (c :: ·) e, hn⟩
    | none =>
      rw [hs] at h
      dsimp only at h
      split at h
      · rename_i hc
        cases h
        exact ⟨by rw [hc]; rfl, (splitLast_eq_none d _).mp hs⟩
      · cases h

/-! ### OS strings -/

theorem toStr?_ofStr (s : List Char) : toStr? (ofStr s) = some s := by
  induction s with
  | nil => rfl
  | cons c cs ih => simp [ofStr, toStr?] at ih ⊢; simp [ih]

theorem toStr?_eq_some (n : OsName) (s : List Char) (h : toStr? n = some s) : n = ofStr s := by
  induction n generalizing s with
  | nil => cases h; rfl
  | cons c cs ih =>
    cases c with
    | bad b => cases h
    | ch c =>
      obtain ⟨t, ht, rfl⟩ := Option.map_eq_some_iff.mp h
      rw [ih t ht]; rfl

theorem toStr?_append (a b : OsName) : toStr? (a ++ b) = (toStr? a).bind fun x => (toStr? b).map fun y => x ++ y := by
  induction a with
  | nil => simp [toStr?]
  | cons c cs ih =>
    cases c with
    | bad _ => simp [toStr?]
    | ch c =>
      simp only [List.cons_append, toStr?, ih]
      cases toStr? cs <;> cases toStr? b <;> simp

theorem mem_ofStr (c : Char) (s : List Char) : OsCh.ch c ∈ ofStr s ↔ c ∈ s := by simp [ofStr]

theorem ofStr_eq_nil (s : List Char) : ofStr s = [] ↔ s = [] := by simp [ofStr]

theorem splitName_plain (l : List Char) (h : '.' ∉ l) : splitName (ofStr l) = (ofStr l, none) := by
  have : OsCh.ch '.' ∉ ofStr l := fun m => h ((mem_ofStr _ l).mp m)
  simp [splitName, (splitLast_eq_none _ _).mpr this]

theorem splitName_ext (l ext : List Char) (hl : l ≠ []) (hx : '.' ∉ ext) :
    splitName (ofStr l ++ OsCh.ch '.' :: ofStr ext) = (ofStr l, some (ofStr ext)) := by
  have : OsCh.ch '.' ∉ ofStr ext := fun m => hx ((mem_ofStr _ ext).mp m)
  have hne : ofStr l ≠ [] := fun e => hl ((ofStr_eq_nil l).mp e)
  simp [splitName, splitLast_append _ _ _ this, hne]

/-! ### paths -/

theorem parentOf_concat_normal (q : Path) (n : OsName) : parentOf (q ++ [.normal n]) = some q := by
  simp [parentOf]

theorem fileName_concat_normal (q : Path) (n : OsName) : fileName (q ++ [.normal n]) = some n := by
  simp [fileName]

theorem parentOf_eq_some {p q : Path} (h : parentOf p = some q) : ∃ c, p = q ++ [c] := by
  unfold parentOf at h
  have hq : q = p.dropLast := by split at h <;> cases h <;> rfl
  have hne : p ≠ [] := by rintro rfl; cases h
  exact ⟨p.getLast hne, by rw [hq, List.dropLast_concat_getLast]⟩

theorem stripPrefix_append (r x : Path) : stripPrefix r (r ++ x) = some x := by
  induction r with
  | nil => cases x <;> rfl
  | cons a r ih => simp [stripPrefix, ih]

theorem stripPrefix_eq_some {r p x : Path} (h : stripPrefix r p = some x) : p = r ++ x := by
  induction r generalizing p with
  | nil => cases p <;> simp_all [stripPrefix]
  | cons a r ih =>
    cases p with
    | nil => simp [stripPrefix] at h
    | cons b p =>
      simp only [stripPrefix] at h
      split at h
      · rename_i hab; subst hab; simp [ih h]
      · cases h

/-! ### IdBuilder -/

theorem pop_push (buf x b' : Buf) (hne : x ≠ []) (h : push buf x = some b') : pop b' = some buf := by
  by_cases hx : '.' ∈ x
  · rw [push, if_pos hx] at h; cases h
  · rw [push, if_neg hx] at h
    cases h
    cases buf with
    | nil => rw [if_pos rfl, pop, if_neg hne, (splitLast_eq_none _ _).mpr hx]
    | cons c cs =>
      rw [if_neg (List.cons_ne_nil c cs), pop, if_neg (List.append_ne_nil_of_right_ne_nil _ (List.cons_ne_nil _ _)),
        splitLast_append _ _ _ hx]

/-! ### ids ↔ segments

The watcher model carries its own copies of `splitDot`, `joinDot` and `IdBuilder::push`; they are
the functions of `Model.Source`, whose lemmas (`Lemmas/Source.lean`) are used through these equations.
(`mem_joinDot` has no counterpart there and is proved on this copy.) -/

theorem splitDot_eq (s : List Char) : splitDot s = Source.splitDot s := by
  induction s with
  | nil => rfl
  | cons c cs ih => rw [splitDot, Source.splitDot, ih]; cases Source.splitDot cs <;> rfl

theorem joinDot_eq (ws : List (List Char)) : joinDot ws = Source.joinDot ws := by
  induction ws with
  | nil => rfl
  | cons w ws ih => cases ws with
    | nil => rfl
    | cons w2 ws2 => exact congrArg (w ++ '.' :: ·) ih

theorem push_eq (buf s : List Char) : push buf s = Source.idPush buf s := by
  unfold push Source.idPush
  cases buf <;> rfl

theorem joinDot_cons_cons (w s : List Char) (t : List (List Char)) :
    joinDot (w :: s :: t) = w ++ '.' :: joinDot (s :: t) := rfl

theorem splitDot_ne_nil (s : List Char) : splitDot s ≠ [] := by
  rw [splitDot_eq]; exact Lemmas.Source.splitDot_ne_nil s

theorem splitDot_joinDot (ws : List (List Char)) (hne : ws ≠ []) (h : ∀ w ∈ ws, '.' ∉ w) :
    splitDot (joinDot ws) = ws := by
  rw [splitDot_eq, joinDot_eq]; exact Lemmas.Source.splitDot_joinDot ws hne h

theorem push_join (cs : List (List Char)) (s : List Char) (hcs : ∀ c ∈ cs, c ≠ []) (hs : '.' ∉ s) :
    push (joinDot cs) s = some (joinDot (cs ++ [s])) := by
  rw [push_eq, joinDot_eq, joinDot_eq, Lemmas.Source.idPush_eq _ _ hs, Lemmas.Source.childId_joinDot cs s hcs]

theorem mem_joinDot (c : Char) (segs : List (List Char)) (h : c ∈ joinDot segs) :
    c = '.' ∨ ∃ s ∈ segs, c ∈ s := by
  induction segs with
  | nil => simp [joinDot] at h
  | cons w ws ih =>
    cases ws with
    | nil => right; exact ⟨w, by simp, by simpa [joinDot] using h⟩
    | cons w2 ws2 =>
      simp only [joinDot, List.mem_append, List.mem_cons] at h
      rcases h with h | h | h
      · right; exact ⟨w, by simp, h⟩
      · left; exact h
      · rcases ih (by simpa [joinDot] using h) with e | ⟨s, hs, hc⟩
        · left; exact e
        · right; exact ⟨s, List.mem_cons_of_mem _ hs, hc⟩

/-! ### the component loop -/

/-- The component of a separator-free, UTF-8 name. -/
def N (s : List Char) : Comp := .normal (ofStr s)

theorem compStep_N (buf : Buf) (s : List Char) : compStep buf (N s) = push buf s := by
  simp [compStep, N, Comp.kind, compTable, toStr?_ofStr]

theorem compStep_cur (buf : Buf) : compStep buf .curDir = some buf := by
  simp [compStep, Comp.kind, compTable]

theorem compStep_parent (buf : Buf) : compStep buf .parentDir = pop buf := by
  simp [compStep, Comp.kind, compTable]

theorem runComps_append (buf : Buf) (xs ys : Path) :
    runComps buf (xs ++ ys) = (runComps buf xs).bind fun b => runComps b ys := by
  induction xs generalizing buf with
  | nil => simp [runComps]
  | cons c cs ih =>
    simp only [List.cons_append, runComps]
    cases compStep buf c with
    | none => simp
    | some b => simp [ih]

/-- The component loop over non-empty dot-free names appends them to the id built so far. -/
theorem runComps_segs (pre segs : List (List Char)) (hne : ∀ s ∈ pre ++ segs, s ≠ []) (h : ∀ s ∈ segs, '.' ∉ s) :
    runComps (joinDot pre) (segs.map N) = some (joinDot (pre ++ segs)) := by
  induction segs generalizing pre with
  | nil => rw [List.append_nil]; rfl
  | cons s t ih =>
    rw [List.map_cons, runComps, compStep_N,
      push_join pre s (fun c hc => hne c (List.mem_append_left _ hc)) (h s List.mem_cons_self), Option.bind_some,
      ih (pre ++ [s]) (by rwa [List.append_assoc]) fun x hx => h x (List.mem_cons_of_mem _ hx), List.append_assoc]
    rfl

theorem runComps_segs_nil (segs : List (List Char)) (hne : ∀ s ∈ segs, s ≠ []) (h : ∀ s ∈ segs, '.' ∉ s) :
    runComps [] (segs.map N) = some (joinDot segs) :=
  runComps_segs [] segs hne h

theorem runComps_none_of_mem (buf : Buf) (rel : Path) (c : Comp) (hc : c ∈ rel)
    (hbad : ∀ b, compStep b c = none) : runComps buf rel = none := by
  induction rel generalizing buf with
  | nil => cases hc
  | cons d ds ih =>
    simp only [runComps]
    rcases List.mem_cons.mp hc with rfl | h
    · simp [hbad]
    · cases compStep buf d with
      | none => rfl
      | some b => simpa using ih b h

theorem dotfree_of_runComps (buf b' : Buf) (segs : List (List Char)) (h : runComps buf (segs.map N) = some b') :
    ∀ s ∈ segs, '.' ∉ s := by
  intro s hs hdot
  have : runComps buf (segs.map N) = none := by
    apply runComps_none_of_mem buf _ (N s) (List.mem_map_of_mem hs)
    intro b; rw [compStep_N, push, if_pos hdot]
  rw [this] at h; cases h

/-- Entering a directory the builder accepts and leaving it again restores the buffer. -/
theorem runComps_updown (buf : Buf) (a : Path) (x : List Char) (hx : '.' ∉ x) (hne : x ≠ []) :
    runComps buf (a ++ [N x, .parentDir]) = runComps buf a := by
  rw [runComps_append]
  cases runComps buf a with
  | none => rfl
  | some b =>
    have hp : push b x = some (if b = [] then x else b ++ '.' :: x) := if_neg hx
    rw [Option.bind_some, runComps, compStep_N, hp, Option.bind_some, runComps, compStep_parent, pop_push b x _ hne hp]
    rfl

/-! ### `id_of_path` unfolded on `root ++ rel ++ [last]` -/

/-- The shape of `id_of_path` as extracted from the source: the root itself is the directory with
the empty id, the kind comes from the notification when it gives one, the whole name of a
directory and the stem of a file are the last id segment, `name.` is refused. -/
theorem idShape_eq : idShape = ⟨true, true, .whole, .stem, true⟩ := by decide

theorem kindOf_eq (hint : Option Bool) (d : Bool) : kindOf hint d = hint.getD d := by
  simp [kindOf, idShape_eq]

/-- The extension of a file name, the empty-but-present one (`name.`) refused. -/
def extOfName (n : OsName) : Option (List Char) :=
  match (splitName n).2 with
  | none => some []
  | some e => if e = [] then none else toStr? e

theorem fileExt_eq (n : OsName) : fileExt n = extOfName n := by
  unfold fileExt extOfName
  rw [idShape_eq]
  rfl

theorem idOfPath_root (r : Path) (hint : Option Bool) (d : Bool) : idOfPath r r hint d = some (.dir []) := by
  simp [idOfPath, idShape_eq]

/-- `id_of_path` after its component loop: the last id segment and the extension from the last
component's name `n`, for a directory (`k`) or a file. -/
def lastStep (buf : Buf) (n : OsName) (k : Bool) : Option Ent :=
  if k then
    (toStr? n).bind fun s => (push buf s).map fun id => .dir id
  else
    (toStr? (splitName n).1).bind fun s =>
    (push buf s).bind fun id => (extOfName n).map fun ext => .file id ext

theorem idOfPath_of_ne (r p : Path) (hint : Option Bool) (d : Bool) (h : p ≠ r) :
    idOfPath r p hint d =
      (parentOf p).bind fun par => (stripPrefix r par).bind fun rel => (runComps [] rel).bind fun buf =>
      (fileName p).bind fun name => lastStep buf name (hint.getD d) := by
  unfold idOfPath lastStep
  simp only [h, and_false, if_false, kindOf_eq, fileExt_eq, idShape_eq, namePart]

theorem idOfPath_normal (r q : Path) (n : OsName) (hint : Option Bool) (d : Bool) (h : q ++ [.normal n] ≠ r) :
    idOfPath r (q ++ [.normal n]) hint d =
      (stripPrefix r q).bind fun rel => (runComps [] rel).bind fun buf => lastStep buf n (hint.getD d) := by
  rw [idOfPath_of_ne _ _ _ _ h, parentOf_concat_normal, fileName_concat_normal]
  rfl

theorem under_ne (r rel : Path) (c : Comp) : r ++ rel ++ [c] ≠ r := by
  intro e
  have := congrArg List.length e
  simp at this

theorem idOfPath_under (r rel : Path) (n : OsName) (hint : Option Bool) (d : Bool) :
    idOfPath r (r ++ rel ++ [.normal n]) hint d = (runComps [] rel).bind fun buf => lastStep buf n (hint.getD d) := by
  rw [idOfPath_normal _ _ _ _ _ (under_ne r rel _), stripPrefix_append]
  rfl

theorem lastStep_dir_none (buf : Buf) (n : OsName) (h : ∀ s, toStr? n = some s → '.' ∈ s) : lastStep buf n true = none := by
  rw [lastStep, if_pos rfl]
  cases hs : toStr? n with
  | none => rfl
  | some s => rw [Option.bind_some, push, if_pos (h s hs)]; rfl

theorem lastStep_file_none (buf : Buf) (n : OsName)
    (h : (∀ s, toStr? (splitName n).1 = some s → '.' ∈ s) ∨ (splitName n).2 = some []) : lastStep buf n false = none := by
  rw [lastStep, if_neg Bool.false_ne_true]
  cases hs : toStr? (splitName n).1 with
  | none => rfl
  | some s =>
    rw [Option.bind_some]
    rcases h with h | h
    · rw [push, if_pos (h s hs)]; rfl
    · rw [extOfName, h]
      cases push buf s <;> rfl

theorem lastStep_dir_eq_some {buf : Buf} {n : OsName} {e : Ent} (h : lastStep buf n true = some e) :
    ∃ s id, toStr? n = some s ∧ push buf s = some id ∧ e = .dir id := by
  rw [lastStep, if_pos rfl] at h
  obtain ⟨s, hs, h⟩ := Option.bind_eq_some_iff.mp h
  obtain ⟨id, hp, rfl⟩ := Option.map_eq_some_iff.mp h
  exact ⟨s, id, hs, hp, rfl⟩

theorem lastStep_file_eq_some {buf : Buf} {n : OsName} {e : Ent} (h : lastStep buf n false = some e) :
    ∃ s id x, toStr? (splitName n).1 = some s ∧ push buf s = some id ∧ extOfName n = some x ∧ e = .file id x := by
  rw [lastStep, if_neg Bool.false_ne_true] at h
  obtain ⟨s, hs, h⟩ := Option.bind_eq_some_iff.mp h
  obtain ⟨id, hp, h⟩ := Option.bind_eq_some_iff.mp h
  obtain ⟨x, hx, rfl⟩ := Option.map_eq_some_iff.mp h
  exact ⟨s, id, x, hs, hp, hx, rfl⟩

theorem bind_bind_eq_none {α β γ} (a : Option α) (f : α → Option β) {g : β → Option γ} (h : ∀ b, g b = none) :
    (a.bind fun x => (f x).bind g) = none := by
  cases a with
  | none => rfl
  | some x => rw [Option.bind_some]; cases f x with
    | none => rfl
    | some b => exact h b

/-! ### `path_of_entry` -/

theorem foldl_pushSeg (r : Path) (segs : List (List Char)) (h : ∀ s ∈ segs, s ≠ []) :
    segs.foldl pushSeg r = r ++ segs.map N := by
  induction segs generalizing r with
  | nil => simp
  | cons s t ih =>
    have hs : s ≠ [] := h s (by simp)
    simp only [List.foldl_cons, pushSeg, hs, if_false]
    rw [ih _ (fun x hx => h x (List.mem_cons_of_mem _ hx))]
    simp [N]

end AmVerif.Model.Watch
