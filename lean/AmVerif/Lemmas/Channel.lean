import AmVerif.Lemmas.Settle
import AmVerif.Lemmas.Converge
import AmVerif.Lemmas.Entry
/-!
# Registrations in the channel: a cache with its reloader between two drains

A load sends one `AddAsset` per asset it caches; the reloader takes them at its next step. Between two
drains an asset is settled OR has a registration pending (`SettledBut`), and the registration that will
win — the LAST one of its key: `insertAsset` replaces the node's dependencies, `drain_node` — is good if
the key is still cached (`LastGood`); so after the drain everything is settled (`settledBut_drainC`).
`PendingC` is that invariant (with `Reg`: every cached dynamic entry is known to the reloader); `Pending` is
its special case for channels without stale registrations (no `clear`, no `load_owned`).

Every API operation keeps it for one reason: it leaves alone what the settled assets and the pending
registrations read (`SameOn`: `SettledAt.keep`, `MsgGood.keep`; hence `SettledBut.step`, `PendingC.step`) —
because the cache only grew and filled no key that was probed in vain (`SameOn.of_le`: `load`,
`get_or_insert`, `load_owned`), or because only a key nobody lists went away (`SameOn.of_ne`: `remove`, `take`).
-/
namespace AmVerif.Model
open AmVerif.Gen AmVerif.Lemmas.TopoGraph

/-! ## `Settled` through the registrations -/

/-- `Settled`, except for the keys that have a registration pending in `msgs` -/
def SettledBut (env : Env) (fuel : Nat) (t : St) (g : Graph) (msgs : List Msg) : Prop :=
  ∀ k node c, g.get (.asset k) = some node → node.typed = true → t.lookup k = some c → c.dyn = true →
    SettledAt env fuel t node k c ∨ ∃ D, Msg.addAsset k D ∈ msgs

/-- with the channel drained, everything registered and cached is settled -/
theorem SettledBut.drained {env : Env} {fuel : Nat} {s : St} {g : Graph} (h : SettledBut env fuel s g s.out)
    (hout : s.out = []) : Settled env fuel s g := fun k node c hg ht hc hd =>
  (h k node c hg ht hc hd).resolve_right (fun ⟨_, hm⟩ => by rw [hout] at hm; cases hm)

/-! ## The last registration of a key in the channel -/

/-- the dependency set carried by the last `AddAsset k _` of the channel (`Clear`s are skipped: the
reloader's graph keeps its nodes on `Clear`) -/
def lastReg (k : Key) : List Msg → Option (List Dep)
  | [] => none
  | .addAsset k' D :: ms =>
    match lastReg k ms with
    | some D' => some D'
    | none => if k' = k then some D else none
  | .clear :: ms => lastReg k ms

theorem lastReg_cons (k k' : Key) (D : List Dep) (ms : List Msg) :
    lastReg k (.addAsset k' D :: ms) = (lastReg k ms).or (if k' = k then some D else none) := by
  simp only [lastReg]
  cases lastReg k ms <;> rfl

/-- `lastReg` finds a registration of `k` that is in the channel, or the channel holds none -/
theorem lastReg_spec (k : Key) : ∀ ms : List Msg,
    (∃ D, lastReg k ms = some D ∧ Msg.addAsset k D ∈ ms) ∨ (lastReg k ms = none ∧ ∀ D, Msg.addAsset k D ∉ ms) := by
  intro ms
  induction ms with
  | nil => exact .inr ⟨rfl, fun _ h => nomatch h⟩
  | cons m ms ih =>
    cases m with
    | clear =>
      exact ih.imp (fun ⟨D, e, h⟩ => ⟨D, e, .tail _ h⟩)
        (fun ⟨e, h⟩ => ⟨e, fun D hm => (List.mem_cons.mp hm).elim nofun (h D)⟩)
    | addAsset k' D0 =>
      rw [lastReg_cons]
      rcases ih with ⟨D, e, h⟩ | ⟨e, h⟩
      · exact .inl ⟨D, by rw [e, Option.some_or], .tail _ h⟩
      · by_cases hk : k' = k
        · exact .inl ⟨D0, by rw [e, Option.none_or, if_pos hk], hk ▸ .head _⟩
        · exact .inr ⟨by rw [e, Option.none_or, if_neg hk], fun D hm =>
            (List.mem_cons.mp hm).elim (fun e' => hk (Msg.addAsset.inj e').1.symm) (h D)⟩

theorem lastReg_mem {k : Key} {ms : List Msg} {D : List Dep} (h : lastReg k ms = some D) : Msg.addAsset k D ∈ ms := by
  rcases lastReg_spec k ms with ⟨D', e, hm⟩ | ⟨e, _⟩
  · exact Option.some.inj (e.symm.trans h) ▸ hm
  · exact nomatch e.symm.trans h

theorem lastReg_none {k : Key} {ms : List Msg} (h : lastReg k ms = none) (D : List Dep) : Msg.addAsset k D ∉ ms := by
  rcases lastReg_spec k ms with ⟨_, e, _⟩ | ⟨_, hm⟩
  · exact nomatch e.symm.trans h
  · exact hm D

theorem lastReg_append (k : Key) (a b : List Msg) : lastReg k (a ++ b) = (lastReg k b).or (lastReg k a) := by
  induction a with
  | nil => exact Option.or_none.symm
  | cons m a ih =>
    cases m with
    | clear => exact ih
    | addAsset k' D => rw [List.cons_append, lastReg_cons, lastReg_cons, ih, Option.or_assoc]

theorem lastReg_of_mem {k : Key} {ms : List Msg} {D : List Dep} (h : Msg.addAsset k D ∈ ms) :
    ∃ D', lastReg k ms = some D' := by
  cases hl : lastReg k ms with
  | some D' => exact ⟨D', rfl⟩
  | none => exact absurd h (lastReg_none hl D)

/-! ## Registrations that are good IF their key is cached -/

/-- The registration `AddAsset k D` is **good if `k` is cached** (with a dynamic cell) in `t`. A
registration for an entry that is gone (`clear`, `remove`) or that was never cached (`load_owned`)
satisfies it vacuously: the node it creates is skipped by `reload` and `Settled` does not speak of it. -/
def MsgGoodIf (env : Env) (fuel : Nat) (t : St) (k : Key) (D : List Dep) : Prop :=
  ∀ c, t.lookup k = some c → c.dyn = true → MsgGood env fuel t k D

/-- the LAST registration of every key in `msgs` is good if its key is cached (the earlier ones — stale —
are unconstrained: `insertAsset` replaces the node's dependencies, the last message wins) -/
def LastGood (env : Env) (fuel : Nat) (t : St) (msgs : List Msg) : Prop :=
  ∀ k D, lastReg k msgs = some D → MsgGoodIf env fuel t k D

theorem LastGood.nil (env : Env) (fuel : Nat) (t : St) : LastGood env fuel t [] := fun _ _ h => by cases h

theorem MsgGood.toIf {env : Env} {fuel : Nat} {t : St} {k : Key} {D : List Dep} (h : MsgGood env fuel t k D) :
    MsgGoodIf env fuel t k D := fun _ _ _ => h

/-- a channel of registrations each of which is good if its key is cached -/
theorem LastGood.of_goodIf {env : Env} {fuel : Nat} {t : St} {msgs : List Msg}
    (h : ∀ m, m ∈ msgs → ∃ k D, m = .addAsset k D ∧ MsgGoodIf env fuel t k D) : LastGood env fuel t msgs := by
  intro k D hk
  obtain ⟨_, _, e, hg⟩ := h _ (lastReg_mem hk)
  cases e
  exact hg

/-- a channel of good registrations only -/
theorem LastGood.of_good {env : Env} {fuel : Nat} {t : St} {msgs : List Msg}
    (h : ∀ m, m ∈ msgs → ∃ k D, m = .addAsset k D ∧ MsgGood env fuel t k D) : LastGood env fuel t msgs :=
  .of_goodIf fun m hm => let ⟨k, D, e, hg⟩ := h m hm; ⟨k, D, e, hg.toIf⟩

/-- **The drained graph, node by node.** The node of `k` is typed if it was or if the channel held a
registration of `k`, and it has the dependencies of the LAST registration of `k` (`insertAsset` replaces
them); stale registrations before the last one and `Clear` messages anywhere do not show. -/
theorem drain_node (k : Key) : ∀ (msgs : List Msg) (r : RSt),
    ((drain msgs r).graph.node (.asset k)).typed = ((r.graph.node (.asset k)).typed || (lastReg k msgs).isSome) ∧
    ((drain msgs r).graph.node (.asset k)).deps = (lastReg k msgs).getD (r.graph.node (.asset k)).deps := by
  intro msgs
  induction msgs with
  | nil => exact fun r => ⟨(Bool.or_false _).symm, rfl⟩
  | cons m ms ih =>
    intro r
    cases m with
    | clear => exact ih { r with toReload := [] }
    | addAsset k' D =>
      obtain ⟨i1, i2⟩ := ih { r with graph := r.graph.insertAsset (.asset k') D }
      rw [typed_insertAsset] at i1
      rw [deps_insertAsset] at i2
      rw [lastReg_cons, Option.isSome_or, Option.getD_or]
      by_cases hk : k' = k
      · subst hk
        exact ⟨i1.trans (by simp only [decide_true, Bool.true_or, ↓reduceIte, Option.isSome_some, Bool.or_true]),
          i2.trans (by simp only [↓reduceIte, Option.getD_some])⟩
      · have hne : Dep.asset k ≠ Dep.asset k' := fun e => hk (Dep.asset.inj e).symm
        exact ⟨i1.trans (by simp only [hne, hk, decide_false, Bool.false_or, ↓reduceIte, Option.isSome_none, Bool.or_false]),
          i2.trans (by simp only [hne, hk, ↓reduceIte, Option.getD_none])⟩

/-- **Last message wins.** Draining a channel in which the last registration of every key is good if the
key is cached: everything registered and cached is settled. -/
theorem settledBut_drainC {env : Env} {fuel : Nat} {t : St} :
    ∀ (msgs : List Msg) (r : RSt), LastGood env fuel t msgs →
    SettledBut env fuel t r.graph msgs → Settled env fuel t (drain msgs r).graph := by
  intro msgs r hm h k node c hg ht hc hd
  obtain ⟨e1, e2⟩ := drain_node k msgs r
  rw [node_of_get hg] at e1 e2
  cases hl : lastReg k msgs with
  | some D =>
    rw [hl] at e2
    obtain ⟨m1, m2, m3⟩ := (hm k D hl c hc hd).cell hc
    exact ⟨m1, Or.inl ⟨m2, fun d => by rw [m3, e2]; rfl⟩⟩
  | none =>
    -- no registration of `k` in the channel: its node is the one it had, and it was settled
    rw [hl] at e1 e2
    obtain ⟨n, hn, hnt⟩ := (node_typed_iff r.graph _).mp (by rw [← ht, e1]; exact (Bool.or_false _).symm)
    exact ((h k n c hn hnt hc hd).resolve_right fun ⟨D, hD⟩ => lastReg_none hl D hD).of_deps_eq
      (by rw [e2, node_of_get hn]; rfl)

/-- … and so after the reloader has taken the channel (the cache is the same without its channel) -/
theorem LastGood.drain {env : Env} (hS : env.Steady) {fuel : Nat} {s : St} {r : RSt}
    (hlast : LastGood env fuel s s.out) (hbut : SettledBut env fuel s r.graph s.out) :
    Settled env fuel (processMsgs s r).1 (processMsgs s r).2.graph := by
  rw [processMsgs_eq]
  exact settled_congr hS (s := s) (fun _ => rfl) (settledBut_drainC s.out r hlast hbut)

/-- **Every cached dynamic asset is known to the reloader**: it is registered (typed node) or a
registration for it is in the channel. (True in every reachable state — a dynamic entry is only created
by a load that misses, which registers it —; carried by the invariant because `load_owned` of a CACHED
key registers it again: the entry must then be one the invariant speaks of,
`C05_load_owned_needs_registered`.) -/
def Reg (s : St) (g : Graph) : Prop :=
  ∀ k c, s.lookup k = some c → c.dyn = true →
    (∃ node, g.get (.asset k) = some node ∧ node.typed = true) ∨ ∃ D, Msg.addAsset k D ∈ s.out

/-! ## The invariant between two drains -/

/-- the state of a cache with its reloader between two drains: every pending registration is good,
and everything registered and cached is settled unless a registration for it is pending -/
structure Pending (env : Env) (fuel : Nat) (s : St) (g : Graph) : Prop where
  good : ∀ m, m ∈ s.out → ∃ k D, m = .addAsset k D ∧ MsgGood env fuel s k D
  but : SettledBut env fuel s g s.out

/-- `Pending` with `LastGood` in place of "every registration is `MsgGood`", and `Reg`: the state of a
cache with its reloader between two drains, in histories with `clear` and `load_owned` -/
structure PendingC (env : Env) (fuel : Nat) (s : St) (g : Graph) : Prop where
  good : LastGood env fuel s s.out
  but : SettledBut env fuel s g s.out
  reg : Reg s g

theorem Pending.of_settled {env : Env} {fuel : Nat} {s : St} {g : Graph} (hout : s.out = [])
    (h : Settled env fuel s g) : Pending env fuel s g :=
  ⟨fun m hm => (by rw [hout] at hm; cases hm), fun k node c hg ht hc hd => Or.inl (h k node c hg ht hc hd)⟩

theorem Pending.toC {env : Env} {fuel : Nat} {s : St} {g : Graph} (h : Pending env fuel s g) (hreg : Reg s g) :
    PendingC env fuel s g := ⟨.of_good h.good, h.but, hreg⟩

theorem PendingC.of_settled {env : Env} {fuel : Nat} {s : St} {g : Graph} (hout : s.out = [])
    (h : Settled env fuel s g) (hreg : Reg s g) : PendingC env fuel s g :=
  (Pending.of_settled hout h).toC hreg

/-- draining the channel: `Settled` -/
theorem PendingC.drain {env : Env} (hS : env.Steady) {fuel : Nat} {s : St} {r : RSt} (h : PendingC env fuel s r.graph) :
    Settled env fuel (processMsgs s r).1 (processMsgs s r).2.graph :=
  h.good.drain hS h.but

theorem Pending.drain {env : Env} (hS : env.Steady) {fuel : Nat} {s : St} {r : RSt} (h : Pending env fuel s r.graph) :
    Settled env fuel (processMsgs s r).1 (processMsgs s r).2.graph :=
  (LastGood.of_good h.good).drain hS h.but

/-- registrations only are in the channel of a `Pending` state -/
theorem Pending.drain_toReload {env : Env} {fuel : Nat} {s : St} {r : RSt} (hp : Pending env fuel s r.graph) :
    (processMsgs s r).2.toReload = r.toReload :=
  Model.drain_toReload s.out r (fun m hm => (hp.good m hm).imp fun _ h => h.imp fun _ h => h.1)

/-- a cache that holds nothing satisfies the invariant whatever the graph and the channel are (`clear`) -/
theorem PendingC.empty {env : Env} {fuel : Nat} {t : St} {g : Graph} (h : ∀ k, t.lookup k = none) :
    PendingC env fuel t g :=
  ⟨fun k _ _ c hc _ => (by rw [h k] at hc; cases hc), fun k _ c _ _ hc _ => (by rw [h k] at hc; cases hc),
   fun k c hc _ => (by rw [h k] at hc; cases hc)⟩

/-! ## Steps that leave alone what was read: the invariant -/

/-- `SettledBut` through a step that appends `new` to the channel: every dynamic entry of `t` was there
before or has a registration in `new`, and the step left alone what the settled assets read -/
theorem SettledBut.step {env : Env} (hS : env.Steady) {fuel : Nat} {s t : St} {g : Graph} {new : List Msg}
    (hb : SettledBut env fuel s g s.out) (hout : t.out = s.out ++ new)
    (hcell : ∀ k c, t.lookup k = some c → c.dyn = true → s.lookup k = some c ∨ ∃ D, Msg.addAsset k D ∈ new)
    (hnode : ∀ k node c, g.get (.asset k) = some node → node.typed = true → s.lookup k = some c → c.dyn = true →
      t.lookup k = some c → SameOn s t node.deps) : SettledBut env fuel t g t.out := by
  intro k node c hg ht hc hd
  rw [hout]
  rcases hcell k c hc hd with h | ⟨D, h⟩
  · rcases hb k node c hg ht h hd with h1 | ⟨D, h1⟩
    · exact Or.inl (h1.keep hS (hnode k node c hg ht h hd hc))
    · exact Or.inr ⟨D, List.mem_append_left _ h1⟩
  · exact Or.inr ⟨D, List.mem_append_right _ h⟩

/-- **Every step that leaves alone what was read keeps `PendingC`** (`PendingC.extend`, `PendingC.remove`
are its two instances): the registrations of `new` are `LastGood`, and the step left alone what the
settled assets and the pending registrations of the entries that stay read. -/
theorem PendingC.step {env : Env} (hS : env.Steady) {fuel : Nat} {s t : St} {g : Graph} {new : List Msg}
    (hp : PendingC env fuel s g) (hout : t.out = s.out ++ new) (hnew : LastGood env fuel t new)
    (hcell : ∀ k c, t.lookup k = some c → c.dyn = true → s.lookup k = some c ∨ ∃ D, Msg.addAsset k D ∈ new)
    (hnode : ∀ k node c, g.get (.asset k) = some node → node.typed = true → s.lookup k = some c → c.dyn = true →
      t.lookup k = some c → SameOn s t node.deps)
    (hmsg : ∀ k D c, Msg.addAsset k D ∈ s.out → s.lookup k = some c → c.dyn = true → t.lookup k = some c →
      SameOn s t D) : PendingC env fuel t g := by
  refine ⟨fun k D h => ?_, hp.but.step hS hout hcell hnode, fun k c hc hd => ?_⟩
  · -- the last registration of `k` is in `new`, or it is the one it was and `k` holds what it held
    rw [hout, lastReg_append] at h
    rcases Option.or_eq_some_iff.mp h with hn | ⟨hn, h⟩
    · exact hnew k D hn
    · intro c hc hd
      rcases hcell k c hc hd with h1 | ⟨D', h1⟩
      · exact (hp.good k D h c h1 hd).keep hS (hc.trans h1.symm) (hmsg k D c (lastReg_mem h) h1 hd hc)
      · exact absurd h1 (lastReg_none hn D')
  · rw [hout]
    rcases hcell k c hc hd with h1 | ⟨D, h1⟩
    · exact (hp.reg k c h1 hd).imp id fun ⟨D, h2⟩ => ⟨D, List.mem_append_left _ h2⟩
    · exact .inr ⟨D, List.mem_append_right _ h1⟩

/-! ## Steps that extend the cache -/

/-- the load fills no key that a registered, cached, dynamic asset depends on while it is absent
(an asset that probed such a key with `get_cached` would see another answer now) -/
def NoProbedKeyFilled (s t : St) (g : Graph) : Prop :=
  ∀ k node c, g.get (.asset k) = some node → node.typed = true → s.lookup k = some c → c.dyn = true →
    ∀ y, Dep.asset y ∈ node.deps → s.lookup y = none → t.lookup y = none

/-- the load fills no key that a pending registration lists while it is absent -/
def NoPendingKeyFilled (s t : St) : Prop :=
  ∀ k D, Msg.addAsset k D ∈ s.out → ∀ y, Dep.asset y ∈ D → s.lookup y = none → t.lookup y = none

theorem noProbedKeyFilled_nil (s t : St) : NoProbedKeyFilled s t [] :=
  fun _ _ _ h => by cases h

theorem noPendingKeyFilled_nil {s : St} (t : St) (h : s.out = []) : NoPendingKeyFilled s t :=
  fun _ _ hm => by rw [h] at hm; cases hm

/-- the step fills no key that a pending registration OF A CACHED (dynamic) ASSET lists while it is
absent. (`NoPendingKeyFilled` asks it of every registration in the channel — too much after a `clear`:
`load b; clear; load b` fills `e`, which the stale registration of `b` lists.) -/
def NoLivePendingKeyFilled (s t : St) : Prop :=
  ∀ k D c, Msg.addAsset k D ∈ s.out → s.lookup k = some c → c.dyn = true →
    ∀ y, Dep.asset y ∈ D → s.lookup y = none → t.lookup y = none

theorem NoPendingKeyFilled.live {s t : St} (h : NoPendingKeyFilled s t) : NoLivePendingKeyFilled s t :=
  fun k D _ hm _ _ => h k D hm

/-- **A step that extends the cache and appends registrations keeps `PendingC`**: the new registrations
are `LastGood` in the new cache, every new dynamic entry has one, and the step fills no key that a
registered asset or a live pending registration probed in vain. -/
theorem PendingC.extend {env : Env} (hS : env.Steady) {fuel : Nat} {s t : St} {g : Graph} {new : List Msg}
    (hp : PendingC env fuel s g) (hle : s.Le t) (hout : t.out = s.out ++ new)
    (hgood : LastGood env fuel t new)
    (hnew : ∀ k c, t.lookup k = some c → c.dyn = true → s.lookup k = some c ∨ ∃ D, Msg.addAsset k D ∈ new)
    (hfill : NoProbedKeyFilled s t g) (hfillM : NoLivePendingKeyFilled s t) : PendingC env fuel t g :=
  hp.step hS hout hgood hnew (fun k node c hg ht hc hd _ => .of_le hle (hfill k node c hg ht hc hd))
    (fun k D c hm hc hd _ => .of_le hle (hfillM k D c hm hc hd))

/-- a step that extends the cache and registers what it adds, each registration good if its key is
cached, keeps `PendingC` -/
theorem PendingC.registers {env : Env} (hS : env.Steady) {fuel : Nat} {s t : St} {g : Graph}
    (hp : PendingC env fuel s g) (hle : s.Le t) (h : Registers (MsgGoodIf env fuel t) s t)
    (hfill : NoProbedKeyFilled s t g) (hfillM : NoLivePendingKeyFilled s t) : PendingC env fuel t g := by
  obtain ⟨new, h1, h2, h3⟩ := h
  exact hp.extend hS hle h1 (.of_goodIf h2) (fun k c hc _ => h3 k c hc) hfill hfillM

/-- `clean_out` for a top-level evaluation, read off the state `evalTop` returns -/
theorem evalTop_clean {env : Env} (hS : env.Steady) {fuel : Nat} {s : St} (p : Prog)
    (hclean : cleanRun env (evalTop env fuel s p).1 fuel { s with recs := [] } p = true) :
    Registers (MsgGood env fuel (evalTop env fuel s p).1) s (evalTop env fuel s p).1 :=
  clean_out hS fuel (fin0 := (evalTop env fuel s p).1) (fun _ h => h) fuel p { s with recs := [] } (Nat.le_refl _)
    hclean (St.Le.of_map_eq rfl)

/-- **A clean top-level evaluation keeps `PendingC`.** -/
theorem evalTop_pendingC {env : Env} (hS : env.Steady) {fuel : Nat} {s : St} {g : Graph} (p : Prog)
    (hp : PendingC env fuel s g)
    (hclean : cleanRun env (evalTop env fuel s p).1 fuel { s with recs := [] } p = true)
    (hfill : NoProbedKeyFilled s (evalTop env fuel s p).1 g)
    (hfillM : NoLivePendingKeyFilled s (evalTop env fuel s p).1) :
    PendingC env fuel (evalTop env fuel s p).1 g :=
  hp.registers hS (evalTop_mono env fuel s p) ((evalTop_clean hS p hclean).mono fun _ _ => MsgGood.toIf) hfill hfillM

/-- the named hypothesis of `load_settles` on the load itself: the evaluation `load(key)` performs
from the API is a clean loading run (see `cleanRun`: no absorbed failure, no `get_cached` probe of a
key that is cached before the load returns) -/
def CleanLoad (env : Env) (fuel : Nat) (s : St) (key : Key) : Prop :=
  cleanRun env (step env fuel s (.load key)).1 fuel { s with recs := [] } (.load key Prog.ret') = true

instance (env : Env) (fuel : Nat) (s : St) (key : Key) : Decidable (CleanLoad env fuel s key) := by
  unfold CleanLoad; infer_instance

/-- the named hypotheses on one load of a history -/
structure LoadOK (env : Env) (fuel : Nat) (s : St) (r : RSt) (key : Key) : Prop where
  clean : CleanLoad env fuel s key
  noFill : NoProbedKeyFilled s (step env fuel s (.load key)).1 r.graph
  noFillPending : NoPendingKeyFilled s (step env fuel s (.load key)).1

/-- the named hypotheses on one load of a history with `clear` / `load_owned`: `LoadOK`, with the
no-fill hypothesis on the channel asked only of the registrations whose key is cached -/
structure LoadOKC (env : Env) (fuel : Nat) (s : St) (r : RSt) (key : Key) : Prop where
  clean : CleanLoad env fuel s key
  noFill : NoProbedKeyFilled s (step env fuel s (.load key)).1 r.graph
  noFillLive : NoLivePendingKeyFilled s (step env fuel s (.load key)).1

theorem LoadOK.toC {env : Env} {fuel : Nat} {s : St} {r : RSt} {key : Key} (h : LoadOK env fuel s r key) :
    LoadOKC env fuel s r key := ⟨h.clean, h.noFill, h.noFillPending.live⟩

theorem load_pendingC {env : Env} (hS : env.Steady) {fuel : Nat} {s : St} {r : RSt} (key : Key)
    (hp : PendingC env fuel s r.graph) (hok : LoadOKC env fuel s r key) :
    PendingC env fuel (step env fuel s (.load key)).1 r.graph := by
  obtain ⟨h1, h2, h3⟩ := hok
  unfold CleanLoad at h1
  rw [step_load_fst] at h1 h2 h3 ⊢
  exact evalTop_pendingC hS _ hp h1 h2 h3

/-- `get_or_insert`: the channel is left alone, the cache grows by at most one static entry -/
theorem step_getOrInsert_facts (env : Env) (fuel : Nat) (s : St) (key : Key) (v : Val) :
    s.Le (step env fuel s (.getOrInsert key v)).1 ∧ (step env fuel s (.getOrInsert key v)).1.out = s.out ∧
    ∀ k c, (step env fuel s (.getOrInsert key v)).1.lookup k = some c → s.lookup k = some c ∨ c.dyn = false :=
  ⟨fun k c h => step_keeps env fuel s _ k c rfl h, step_getOrInsert_out env fuel s key v,
    step_getOrInsert_added env fuel s key v (P := fun _ c => c.dyn = false) (Bool.and_false _)⟩

/-! ## Steps that shrink the cache -/

/-- nothing registered and cached, and no registration still in the channel, depends on `key` (or is
for `key`): what `remove` / `take` of `key` needs to keep everything else settled -/
def NoDependentOn (s : St) (g : Graph) (key : Key) : Prop :=
  (∀ k node c, g.get (.asset k) = some node → node.typed = true → s.lookup k = some c → c.dyn = true → k ≠ key →
    Dep.asset key ∉ node.deps) ∧
  (∀ k D, Msg.addAsset k D ∈ s.out → k ≠ key ∧ Dep.asset key ∉ D)

/-- `NoDependentOn`, the part on the channel asked only of the registrations of OTHER keys that are
cached (a pending registration of `key` itself becomes stale — harmless) -/
def NoDependentOnC (s : St) (g : Graph) (key : Key) : Prop :=
  (∀ k node c, g.get (.asset k) = some node → node.typed = true → s.lookup k = some c → c.dyn = true → k ≠ key →
    Dep.asset key ∉ node.deps) ∧
  (∀ k D c, Msg.addAsset k D ∈ s.out → s.lookup k = some c → c.dyn = true → k ≠ key → Dep.asset key ∉ D)

theorem NoDependentOn.toC {s : St} {g : Graph} {key : Key} (h : NoDependentOn s g key) : NoDependentOnC s g key :=
  ⟨h.1, fun k D _ hm _ _ _ => (h.2 k D hm).2⟩

/-- with the channel drained the two hypotheses coincide -/
theorem NoDependentOnC.drained {s : St} {g : Graph} {key : Key} (hout : s.out = []) (h : NoDependentOnC s g key) :
    NoDependentOn s g key :=
  ⟨h.1, fun k D hm => by rw [hout] at hm; cases hm⟩

/-- `PendingC` is kept when the entry of `key` leaves the cache, provided nothing cached depends on it -/
theorem PendingC.remove {env : Env} (hS : env.Steady) {fuel : Nat} {s t : St} {g : Graph} {key : Key}
    (hp : PendingC env fuel s g) (hout : t.out = s.out)
    (hother : ∀ k, k ≠ key → t.lookup k = s.lookup k) (hkey : t.lookup key = none)
    (hdep : NoDependentOnC s g key) : PendingC env fuel t g := by
  have hne : ∀ {k c}, t.lookup k = some c → k ≠ key := fun hc e => by rw [e, hkey] at hc; cases hc
  exact hp.step hS (new := []) (hout.trans (List.append_nil _).symm) (LastGood.nil _ _ _)
    (fun k c hc _ => Or.inl ((hother k (hne hc)).symm.trans hc))
    (fun k node c hg ht hc hd hc' => .of_ne hother (hdep.1 k node c hg ht hc hd (hne hc')))
    (fun k D c hm hc hd hc' => .of_ne hother (hdep.2 k D c hm hc hd (hne hc')))

theorem step_remove_facts (env : Env) (fuel : Nat) (s : St) (key : Key) :
    (step env fuel s (.remove key)).1.out = s.out ∧
    (∀ k, k ≠ key → (step env fuel s (.remove key)).1.lookup k = s.lookup k) ∧
    (step env fuel s (.remove key)).1.lookup key = none :=
  ⟨rfl, fun k hk => (step_remove_lookup env fuel s key k).trans (if_neg hk), (step_remove_lookup env fuel s key key).trans (if_pos rfl)⟩

/-- `take` leaves the cache that `remove` leaves -/
theorem step_take_facts (env : Env) (fuel : Nat) (s : St) (key : Key) :
    (step env fuel s (.take key)).1.out = s.out ∧
    (∀ k, k ≠ key → (step env fuel s (.take key)).1.lookup k = s.lookup k) ∧
    (step env fuel s (.take key)).1.lookup key = none :=
  step_remove_facts env fuel s key

/-! ## `Pending`: channels without stale registrations -/

/-- **Every step that leaves alone what was read keeps `Pending`**: the registrations of `new` are good,
and the step left alone the entries and the reads of the pending ones. -/
theorem Pending.step {env : Env} (hS : env.Steady) {fuel : Nat} {s t : St} {g : Graph} {new : List Msg}
    (hp : Pending env fuel s g) (hout : t.out = s.out ++ new)
    (hnew : ∀ m, m ∈ new → ∃ k D, m = .addAsset k D ∧ MsgGood env fuel t k D)
    (hcell : ∀ k c, t.lookup k = some c → c.dyn = true → s.lookup k = some c ∨ ∃ D, Msg.addAsset k D ∈ new)
    (hnode : ∀ k node c, g.get (.asset k) = some node → node.typed = true → s.lookup k = some c → c.dyn = true →
      t.lookup k = some c → SameOn s t node.deps)
    (hmsg : ∀ k D, Msg.addAsset k D ∈ s.out → t.lookup k = s.lookup k ∧ SameOn s t D) : Pending env fuel t g := by
  refine ⟨fun m hm => ?_, hp.but.step hS hout hcell hnode⟩
  rw [hout] at hm
  rcases List.mem_append.mp hm with h | h
  · obtain ⟨k, D, e, hk⟩ := hp.good m h
    subst e
    exact ⟨k, D, rfl, hk.keep hS (hmsg k D h).1 (hmsg k D h).2⟩
  · exact hnew m h

/-- the entry of a pending registration stays in every extension of the cache -/
theorem Pending.lookup_le {env : Env} {fuel : Nat} {s t : St} {g : Graph} (hp : Pending env fuel s g) (hle : s.Le t)
    {k : Key} {D : List Dep} (hm : Msg.addAsset k D ∈ s.out) : t.lookup k = s.lookup k := by
  obtain ⟨k', D', e, c, hc, _⟩ := hp.good _ hm
  obtain ⟨e1, _⟩ := Msg.addAsset.inj e
  subst e1
  rw [hc]; exact hle k c hc

/-- `Pending` is kept when the entry of `key` leaves the cache, provided nothing depends on it -/
theorem Pending.remove {env : Env} (hS : env.Steady) {fuel : Nat} {s t : St} {g : Graph} {key : Key}
    (hp : Pending env fuel s g) (hout : t.out = s.out)
    (hother : ∀ k, k ≠ key → t.lookup k = s.lookup k) (hkey : t.lookup key = none)
    (hdep : NoDependentOn s g key) : Pending env fuel t g := by
  have hne : ∀ {k c}, t.lookup k = some c → k ≠ key := fun hc e => by rw [e, hkey] at hc; cases hc
  exact hp.step hS (new := []) (hout.trans (List.append_nil _).symm) (fun _ h => by cases h)
    (fun k c hc _ => Or.inl ((hother k (hne hc)).symm.trans hc))
    (fun k node c hg ht hc hd hc' => .of_ne hother (hdep.1 k node c hg ht hc hd (hne hc')))
    (fun k D hm => ⟨hother k (hdep.2 k D hm).1, .of_ne hother (hdep.2 k D hm).2⟩)

/-- `Pending` is kept by every step that only adds static entries to the cache and leaves the channel
alone, provided it fills no key that a registered asset or a pending registration probed in vain -/
theorem Pending.extend_static {env : Env} (hS : env.Steady) {fuel : Nat} {s t : St} {g : Graph}
    (hp : Pending env fuel s g) (hle : s.Le t) (hout : t.out = s.out)
    (hnew : ∀ k c, t.lookup k = some c → s.lookup k = some c ∨ c.dyn = false)
    (hfill : NoProbedKeyFilled s t g) (hfillM : NoPendingKeyFilled s t) : Pending env fuel t g :=
  hp.step hS (new := []) (hout.trans (List.append_nil _).symm) (fun _ h => by cases h)
    (fun k c hc hd => Or.inl ((hnew k c hc).resolve_right (by rw [hd]; exact Bool.noConfusion)))
    (fun k node c hg ht hc hd _ => .of_le hle (hfill k node c hg ht hc hd))
    (fun k D hm => ⟨hp.lookup_le hle hm, .of_le hle (hfillM k D hm)⟩)

/-- **A clean top-level evaluation keeps `Pending`** (the channel need not be drained before). -/
theorem evalTop_pending {env : Env} (hS : env.Steady) {fuel : Nat} {s : St} {g : Graph} (p : Prog)
    (hp : Pending env fuel s g)
    (hclean : cleanRun env (evalTop env fuel s p).1 fuel { s with recs := [] } p = true)
    (hfill : NoProbedKeyFilled s (evalTop env fuel s p).1 g)
    (hfillM : NoPendingKeyFilled s (evalTop env fuel s p).1) :
    Pending env fuel (evalTop env fuel s p).1 g := by
  have hle := evalTop_mono env fuel s p
  obtain ⟨new, h1, h2, h3⟩ := evalTop_clean hS p hclean
  exact hp.step hS h1 h2 (fun k c hc _ => h3 k c hc)
    (fun k node c hg ht hc hd _ => .of_le hle (hfill k node c hg ht hc hd))
    (fun k D hm => ⟨hp.lookup_le hle hm, .of_le hle (hfillM k D hm)⟩)

theorem load_pending {env : Env} (hS : env.Steady) {fuel : Nat} {s : St} {r : RSt} (key : Key)
    (hp : Pending env fuel s r.graph) (hok : LoadOK env fuel s r key) :
    Pending env fuel (step env fuel s (.load key)).1 r.graph := by
  obtain ⟨h1, h2, h3⟩ := hok
  unfold CleanLoad at h1
  rw [step_load_fst] at h1 h2 h3 ⊢
  exact evalTop_pending hS _ hp h1 h2 h3

/-- **One API load establishes and preserves `Settled`.** Whatever the load returns (a handle, an
error, a panic, exhausted fuel): after the load and after the reloader has taken the registrations
it sent, every registered, cached, dynamic asset — the ones cached before and all the ones the load
cached on the way — holds what re-evaluating its loader returns, and its node holds exactly what that
re-evaluation reads. No hypothesis on the fuel: a re-evaluation after the load only hits, so it
returns within the fuel the load had (`hitRun_fuel`). -/
theorem load_settles {env : Env} (hS : env.Steady) {fuel : Nat} {s : St} {r : RSt} (key : Key)
    (hout : s.out = []) (hset : Settled env fuel s r.graph)
    (hclean : CleanLoad env fuel s key)
    (hfill : NoProbedKeyFilled s (step env fuel s (.load key)).1 r.graph) :
    Settled env fuel (processMsgs (step env fuel s (.load key)).1 r).1 (processMsgs (step env fuel s (.load key)).1 r).2.graph ∧
    (processMsgs (step env fuel s (.load key)).1 r).1.out = [] :=
  ⟨(load_pending hS key (Pending.of_settled hout hset) ⟨hclean, hfill, noPendingKeyFilled_nil _ hout⟩).drain hS, rfl⟩

/-! ## `load_owned` from the API

`load_owned(key)` evaluates the loader of `key` under its own frame and, on success, registers `key`
with what the frame recorded — like a load — but caches nothing for `key`: the value is handed to the
caller. The registration is for a key that is (in general) NOT cached: vacuously `MsgGoodIf`; the node it
creates is typed and skipped by `reload` (`reload_untyped` finds no entry). The assets the owned load
cached ON THE WAY (nested `load`s) are registered by good messages, exactly as for a load.
When `key` IS cached (`load a; load_owned a`) the registration must agree with the entry (`OwnedAgrees`):
it does, because the invariant knows every cached dynamic entry (`Reg`, `OwnedAgrees.of_known`).
Nested `load_owned` (inside a loader) stays excluded: `hitRun` rejects it, so an asset whose loader takes
that path is never `Settled` — by definition, not by a gap of the proof. -/

/-- the evaluation of the loader body that a top-level `load_owned(key)` performs: the loader of `key`
from the cache `s` under a fresh record, with the fuel left after the call itself -/
def ownedBody (env : Env) (fuel : Nat) (s : St) (key : Key) : St × Outcome :=
  eval env (fuel - 1) s.fresh ((env.types key.ty).prog key.id)

theorem ownedBody_succ (env : Env) (f : Nat) (s : St) (key : Key) :
    ownedBody env (f + 1) s key = eval env f s.fresh ((env.types key.ty).prog key.id) := rfl

/-- **What a top-level `load_owned` does** (hot type, cache with reloader): the cache afterwards is the
cache the body ended in — nothing is inserted for `key` —, and the channel is the body's followed, when
the body returned a value, by the registration of `key` with what the body recorded. -/
theorem step_loadOwned_facts (env : Env) (f : Nat) (s : St) (key : Key)
    (hb : recordsAsset (env.types key.ty).hot env.hasReloader = true) :
    (∀ k, (step env (f + 1) s (.loadOwned key)).1.lookup k = (ownedBody env (f + 1) s key).1.lookup k) ∧
    (step env (f + 1) s (.loadOwned key)).1.out = (ownedBody env (f + 1) s key).1.out ++
      (match (ownedBody env (f + 1) s key).2 with
       | .ok _ => [.addAsset key (ownedBody env (f + 1) s key).1.top]
       | _ => []) := by
  -- nothing is recording at top level: the body starts from `s.fresh`
  have hfr : (St.record { s with recs := [] } true (.asset key)).enter = s.fresh := rfl
  rw [step_loadOwned_fst, evalTop_out, ownedBody_succ]
  simp only [evalTop_lookup]
  rw [eval_loadOwned_ret'_fst, hb, loadAndRecord_hot env _ key _ hb, hfr]
  generalize eval env f s.fresh ((env.types key.ty).prog key.id) = y
  obtain ⟨sb, o⟩ := y
  cases o with
  | ok v => exact ⟨fun _ => rfl, rfl⟩
  | err e => exact ⟨fun k => St.lookup_congr (St.recordAll_map _ _ _) k, (St.recordAll_out _ _ _).trans (List.append_nil _).symm⟩
  | _ => exact ⟨fun _ => rfl, (List.append_nil _).symm⟩

/-- the evaluation a top-level `load_owned(key)` performs is a clean loading run: the type of `key` is
hot-reloaded, and the body of its loader runs clean (`cleanRun`, relative to the cache the call ends in:
plain constructors and recorded look-ups on the path it takes, nested `load`s included; no absorbed
failure; no `get_cached` probe of a key that is cached before the call returns) -/
structure CleanLoadOwned (env : Env) (fuel : Nat) (s : St) (key : Key) : Prop where
  hot : recordsAsset (env.types key.ty).hot env.hasReloader = true
  body : cleanRun env (step env fuel s (.loadOwned key)).1 (fuel - 1) s.fresh ((env.types key.ty).prog key.id) = true

/-- a `load_owned` of a key that is cached (with a dynamic cell) returns the cached value -/
def OwnedAgrees (env : Env) (fuel : Nat) (s : St) (key : Key) : Prop :=
  ∀ c v, s.lookup key = some c → c.dyn = true → (ownedBody env fuel s key).2 = .ok v → v = c.val

/-- when re-evaluating the loader of `key` in `s` is a tracked hit-only run, the body of a top-level
`load_owned(key)` that returns (it has one unit of fuel less) returns what that re-evaluation returns -/
theorem ownedBody_of_hit {env : Env} {fuel : Nat} {s : St} {key : Key} {v : Val}
    (hh : reloadHit env fuel s key = true) (hv : (ownedBody env fuel s key).2 = .ok v) :
    reloadOut env fuel s key = .ok v := by
  unfold ownedBody at hv
  have h1 : hitRun env (fuel - 1) s.fresh ((env.types key.ty).prog key.id) = true :=
    hitRun_down env (fuel - 1) fuel _ _ (Nat.sub_le _ _) hh
  obtain ⟨_, g2⟩ := hitRun_fuel env (fuel - 1) fuel _ s.fresh (Nat.sub_le _ _) h1 (by rw [hv]; exact nofun)
  exact (congrArg Prod.snd g2).trans hv

/-- **`OwnedAgrees` holds for every key the invariant knows**: if `key`, when cached with a dynamic cell,
is registered (typed node) or has a registration in the channel, then — `PendingC` — re-evaluating its
loader is a tracked hit-only run that returns the cached value (or fails), and so does the owned load. -/
theorem OwnedAgrees.of_known {env : Env} {fuel : Nat} {s : St} {g : Graph} {key : Key}
    (hp : PendingC env fuel s g)
    (hk : ∀ c, s.lookup key = some c → c.dyn = true →
      (∃ node, g.get (.asset key) = some node ∧ node.typed = true) ∨ ∃ D, Msg.addAsset key D ∈ s.out) :
    OwnedAgrees env fuel s key := by
  intro c v hc hd hv
  have hlast : ∀ D, lastReg key s.out = some D → v = c.val := fun D hl => by
    obtain ⟨m1, m2, _⟩ := (hp.good key D hl c hc hd).cell hc
    exact Outcome.ok.inj ((ownedBody_of_hit m1 hv).symm.trans m2)
  rcases hk c hc hd with ⟨node, hg, ht⟩ | ⟨D, hm⟩
  · rcases hp.but key node c hg ht hc hd with h1 | ⟨D, hm⟩
    · rcases h1.res with ⟨r1, _⟩ | ⟨e, r1, _⟩
      · exact Outcome.ok.inj ((ownedBody_of_hit h1.hit hv).symm.trans r1)
      · exact nomatch (ownedBody_of_hit h1.hit hv).symm.trans r1
    · exact (lastReg_of_mem hm).elim hlast
  · exact (lastReg_of_mem hm).elim hlast

/-- the named hypotheses on one `load_owned` of a history -/
structure LoadOwnedOK (env : Env) (fuel : Nat) (s : St) (r : RSt) (key : Key) : Prop where
  clean : CleanLoadOwned env fuel s key
  noFill : NoProbedKeyFilled s (step env fuel s (.loadOwned key)).1 r.graph
  noFillLive : NoLivePendingKeyFilled s (step env fuel s (.loadOwned key)).1

/-- **A top-level `load_owned` keeps `PendingC`.** The body is a clean run (`clean_out`); the registration
of `key` itself comes after the body's and is good if `key` is cached: the cached entry is then one the
invariant knows (`Reg`), so it holds what the body returned (`OwnedAgrees.of_known`) — or the body cached
`key` itself. -/
theorem loadOwned_pendingC {env : Env} (hS : env.Steady) {fuel : Nat} {s : St} {r : RSt} (key : Key)
    (hp : PendingC env fuel s r.graph) (hok : LoadOwnedOK env fuel s r key) :
    PendingC env fuel (step env fuel s (.loadOwned key)).1 r.graph := by
  have hag : OwnedAgrees env fuel s key := OwnedAgrees.of_known hp (hp.reg key)
  obtain ⟨⟨hb, hcl⟩, hfill, hfillM⟩ := hok
  cases fuel with
  | zero =>
    exact hp.extend hS (new := []) (fun k c h => h) (List.append_nil _).symm (LastGood.nil _ _ _)
      (fun k c h _ => Or.inl h) hfill hfillM
  | succ f =>
    obtain ⟨hlk, hout⟩ := step_loadOwned_facts env f s key hb
    rw [ownedBody_succ] at hlk hout
    rw [Nat.add_sub_cancel] at hcl
    generalize ht : (step env (f + 1) s (.loadOwned key)).1 = t at hlk hout hcl hfill hfillM ⊢
    have hleB : (eval env f s.fresh ((env.types key.ty).prog key.id)).1.Le t := fun k c h => (hlk k).trans h
    have hle : s.Le t :=
      ((St.Le.of_map_eq (s := s) (t := s.fresh) rfl).trans (eval_mono env f s.fresh _)).trans hleB
    have hB : Registers (MsgGood env (f + 1) t) s (eval env f s.fresh ((env.types key.ty).prog key.id)).1 :=
      clean_out hS (f + 1) (fin0 := t) (fun _ h => h) f _ s.fresh (Nat.le_succ f) hcl hleB
    refine hp.registers hS hle ((hB.mono fun _ _ => MsgGood.toIf).trans ?_) hfill hfillM
    cases hbody : eval env f s.fresh ((env.types key.ty).prog key.id) with
    | mk sb o =>
      rw [hbody] at hleB hB hlk hout
      cases o with
      | ok v =>
        refine .single hout (fun k _ => hlk k) fun c hc hd => ?_
        obtain ⟨p1, p2, p3⟩ := clean_body_replay hS (fin0 := t) (fin := t) (fun _ h => h) (Nat.le_succ f)
          (s0 := s.fresh) (rs := []) rfl hcl hbody hleB
        have hv : v = c.val := by
          rcases hB.entry ((hlk key).symm.trans hc) with h | ⟨_, hg⟩
          · exact hag c v h hd (congrArg Prod.snd hbody)
          · exact Outcome.ok.inj (p2.symm.trans (hg.cell hc).2.1)
        exact ⟨c, hc, p1, by rw [p2, hv], p3⟩
      | _ => exact .of_same (hout.trans (List.append_nil _)) hlk

end AmVerif.Model
