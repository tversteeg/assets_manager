import AmVerif.Model.Reloader
import AmVerif.Lemmas.Topo
/-!
# The reverse-dependency visit of the reloader-thread model (helper lemmas for C08)

* `visit_true_eq`, `sort_true_eq`: in the repaired statement order (`markFirst = true`) the visit is
  `visitG` and the sort is `sortFrom`, so the theorems of `Lemmas/Topo.lean` apply (`sortFrom_terminates`:
  the sort returns on **every** finite graph, cyclic or not, with fuel `#nodes + 1`);
* `visit_diverges_self_loop`, `topo_diverges_self_loop`: in the defective order every fuel is
  exhausted on a self-loop;
* `visit_terminates_acyclic`: in the defective order it still returns when a rank decreases along
  reverse-dependency edges.
-/
namespace AmVerif.Lemmas.Visit
open AmVerif.Model.Reloader AmVerif.Lemmas.Topo

/-- the state of `visitG` as the reloader thread's `VSt` (the same record) -/
def toR (s : Model.VSt Nat) : VSt := ⟨s.vis, s.out⟩

/-- the repaired order is `visitG` -/
theorem visit_true_eq (g : Nat → Option (List Nat)) :
    ∀ f st k, visit g true f (toR st) k = (Model.visitG g f st k).map toR := by
  intro f
  induction f with
  | zero => intro st k; rfl
  | succ f ih =>
    intro st k
    by_cases hk : k ∈ st.vis
    · rw [visitG_seen g hk]; exact if_pos hk
    · refine (if_neg hk).trans ?_
      cases hg : g k with
      | none => rw [visitG_none g hg]; rfl
      | some rs =>
        rw [visitG_node g hk hg]
        -- both `if markFirst` collapse; the fold starts from `toR` of `visitG`'s start state, written so for `foldlM_map`
        simp only [if_true]
        rw [show (⟨k :: (toR st).vis, (toR st).out⟩ : VSt) = toR ⟨k :: st.vis, st.out⟩ from rfl, foldlM_map toR ih]
        cases rs.foldlM (fun s r => Model.visitG g f s r) ⟨k :: st.vis, st.out⟩ <;> rfl

theorem sort_true_eq (g : Nat → Option (List Nat)) (fuel : Nat) (changed : List Nat) :
    changed.foldlM (fun s k => visit g true fuel s k) ⟨[], []⟩ = (Model.sortFrom g fuel changed).map toR :=
  foldlM_map toR (visit_true_eq g fuel) changed ⟨[], []⟩

variable (g : Nat → Option (List Nat))

/-- Defective order: a node that is its own reverse dependency exhausts every fuel. -/
theorem visit_diverges_self_loop (k : Nat) (hg : ∃ rs, g k = some (k :: rs)) (st : VSt) (h : k ∉ st.vis) :
    ∀ fuel, visit g false fuel st k = none := by
  obtain ⟨rs, hg⟩ := hg
  intro fuel
  induction fuel with
  | zero => rfl
  | succ f ih =>
    -- `k` is marked only after the loop, so the first recursive call is on `k` in the unchanged state: `ih`
    simp [visit, h, hg, List.foldlM, ih]

/-- Defective order: so does the sort from such a node. -/
theorem topo_diverges_self_loop (isAsset : Nat → Bool) (k : Nat) (hg : ∃ rs, g k = some (k :: rs)) (fuel : Nat) :
    topo g isAsset false fuel [k] = none := by
  have := visit_diverges_self_loop g k hg ⟨[], []⟩ List.not_mem_nil fuel
  -- the fold over `[k]` is that one visit
  simp [topo, List.foldlM, this]

/-- Defective order, acyclic graph (a rank strictly decreases along reverse-dependency edges): returns. -/
theorem visit_terminates_acyclic (rank : Nat → Nat) (hr : ∀ a rs b, g a = some rs → b ∈ rs → rank b < rank a) :
    ∀ f st k, rank k < f → ∃ st', visit g false f st k = some st' := by
  intro f
  induction f with
  | zero => intro st k h; omega
  | succ f ih =>
    intro st k hlt
    unfold visit
    by_cases hkv : k ∈ st.vis
    · exact ⟨st, by simp [hkv]⟩
    · simp only [hkv, if_false]
      cases hg : g k with
      | none => exact ⟨st, rfl⟩
      | some rs =>
        obtain ⟨s, hs⟩ := foldlM_returns_all (F := fun s r => visit g false f s r) rs st
          fun s r hrm => ih s r (by have := hr k rs r hg hrm; omega)
        exact ⟨_, by simp only [Bool.false_eq_true, if_false]; rw [hs]⟩

end AmVerif.Lemmas.Visit
