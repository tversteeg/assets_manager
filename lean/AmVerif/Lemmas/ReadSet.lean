import AmVerif.Lemmas.Fault
import AmVerif.Lemmas.Reload
/-!
# Read-set determinacy of hit-only evaluations

* `Prog.Plain` — loaders built from `ret / fail / panic / read / readDir / getCached / load / tick`
  only. `.noRecord`, `.onThread`, `.tryCatch` are excluded because what they read is deliberately
  not recorded; `.loadOwned` is excluded because it always re-evaluates the nested loader under a
  frame of its own, so that what decides its value is not in the parent's record; `.getOrInsert` is
  excluded because it mutates the cache (it may fill a slot).
* `hitRun env f s p` — the evaluation `eval env f s p` is a **tracked hit-only run**: on the path it
  actually takes it meets plain constructors only, every `.load` finds its key cached (a *hit*: no
  nested evaluation, nothing inserted), and every look-up is recorded (the type is hot-reloaded and
  the cache has a reloader; reads of the source are recorded). This is weaker than
  `p.Plain ∧ every type hot` (`hitRun_of_plain`): only the path taken matters.
* `HitStep`, `hitRun_succ`, `hitRun_induct` — such a run is a sequence of steps, each a recorded look-up
  answered without a nested evaluation; `HitStep.eval`, `.hitRun`, `.keeps`, `.agree` say what one step does.
* `hitRun_frame` — such a run leaves the map alone and only adds to the top recording frame.
* `eval_readset` — **read-set determinacy**: a tracked hit-only run is a function of what it
  recorded. If `(env', t)` agrees with `(env, s)` on every entry of the final record `D` (`AgreeOn`:
  same file / directory content, same cached *value* or absent in both), then the evaluation under
  `(env', t)` is a tracked hit-only run too, with the same outcome and the same record `D`.
* `reloadEval_readset` — the same for the evaluation a reload performs (`reloadEval`); `reloadEval_sameOn` — under one
  environment: the re-evaluation is the same in every cache that holds the same under the keys it records (`SameOn`).
* `eval_topMono` — every evaluation (any loader) only adds to the top recording frame;
  `hitRun_of_plain` — a `Plain` loader under an all-hot environment runs tracked hit-only as soon as
  every asset it records is cached; `eval_readset_plain` — determinacy stated with `Prog.Plain`.
-/
namespace AmVerif.Model
open AmVerif.Gen

/-! ## Plain loaders -/

/-- Loaders whose every read is recorded in the frame of the asset being loaded. -/
inductive Prog.Plain : Prog → Prop
  | ret (v : Val) : Plain (.ret v)
  | fail (e : LErr) : Plain (.fail e)
  | panic : Plain .panic
  | read (id ext : String) (k : Except IoErr (List UInt8) → Prog) : (∀ r, Plain (k r)) → Plain (.read id ext k)
  | readDir (id : String) (k : Except IoErr (List DirEnt) → Prog) : (∀ r, Plain (k r)) → Plain (.readDir id k)
  | getCached (key : Key) (k : Option Val → Prog) : (∀ r, Plain (k r)) → Plain (.getCached key k)
  | load (key : Key) (k : Except LErr Val → Prog) : (∀ r, Plain (k r)) → Plain (.load key k)
  | tick (k : Option Bool → Prog) : (∀ r, Plain (k r)) → Plain (.tick k)

theorem Prog.Plain.ite {c : Prop} [Decidable c] {p q : Prog} (hp : p.Plain) (hq : q.Plain) :
    (if c then p else q).Plain := by
  split
  · exact hp
  · exact hq

/-- every type is hot-reloaded and the cache has a reloader -/
def Env.Hot (env : Env) : Prop := env.hasReloader = true ∧ ∀ ty, (env.types ty).hot = true

theorem Env.Hot.recordsAsset {env : Env} (h : env.Hot) (ty : Nat) : recordsAsset (env.types ty).hot env.hasReloader = true := by
  unfold Gen.recordsAsset; rw [h.1, h.2]; rfl

/-! ## The top recording frame -/

theorem mem_depInsert (x d : Dep) (ds : List Dep) : x ∈ depInsert d ds ↔ x = d ∨ x ∈ ds := by
  unfold depInsert
  by_cases h : d ∈ ds
  · simp only [h, if_true]
    constructor
    · exact Or.inr
    · rintro (e | e)
      · rw [e]; exact h
      · exact e
  · simp only [h, if_false, List.mem_append, List.mem_singleton]
    exact or_comm

/-- a look-up recorded in a recording top frame: the rest of the state is untouched -/
theorem St.record_of_recs {s : St} {ds : List Dep} {rs} (h : s.recs = some ds :: rs) (d : Dep) :
    s.record true d = { s with recs := some (depInsert d ds) :: rs } := by
  unfold St.record
  simp only [if_true]
  rw [h]

theorem St.record_recs {s : St} {ds : List Dep} {rs} (h : s.recs = some ds :: rs) (d : Dep) :
    (s.record true d).recs = some (depInsert d ds) :: rs :=
  congrArg St.recs (St.record_of_recs h d)

/-! ## The top recording frame only grows -/

/-- the top frame of `t` is the top frame of `s` with possibly more records; the stack below is the same -/
def TopMono (s t : St) : Prop :=
  ∀ ds rs, s.recs = some ds :: rs → ∃ ds', t.recs = some ds' :: rs ∧ ∀ d, d ∈ ds → d ∈ ds'

theorem TopMono.of_recs_eq {s t : St} (h : t.recs = s.recs) : TopMono s t :=
  fun ds _ hs => ⟨ds, h.trans hs, fun _ hd => hd⟩

theorem TopMono.refl (s : St) : TopMono s s := TopMono.of_recs_eq rfl

theorem TopMono.trans {a b c : St} (h1 : TopMono a b) (h2 : TopMono b c) : TopMono a c := by
  intro ds rs hs
  obtain ⟨ds1, e1, m1⟩ := h1 ds rs hs
  obtain ⟨ds2, e2, m2⟩ := h2 ds1 rs e1
  exact ⟨ds2, e2, fun d hd => m2 d (m1 d hd)⟩

theorem topMono_record (s : St) (on : Bool) (d : Dep) : TopMono s (s.record on d) := by
  cases on with
  | false => exact TopMono.of_recs_eq rfl
  | true =>
    intro ds rs hs
    exact ⟨depInsert d ds, St.record_recs hs d, fun x hx => (mem_depInsert _ _ _).mpr (Or.inr hx)⟩

theorem TopMono.evalRel (env : Env) (Q) : EvalRel env Q TopMono where
  refl := TopMono.refl
  trans := TopMono.trans
  record := topMono_record
  ios _ := .of_recs_eq rfl
  loads _ := .of_recs_eq rfl
  send _ _ := .of_recs_eq rfl
  handOut _ _ := .of_recs_eq rfl
  addLoad s key _ _ _ := .of_recs_eq (s.add_recs key _ _)
  addAny s key _ _ _ _ := .of_recs_eq (s.add_recs key _ _)
  frame _ _ _ _ := .of_recs_eq rfl

/-- Every evaluation only adds to the top recording frame. -/
theorem eval_topMono (env : Env) (f : Nat) (s : St) (p : Prog) : TopMono s (eval env f s p).1 :=
  (TopMono.evalRel env _).eval_all f s p

/-! ## Tracked hit-only runs -/

/-- `eval env f s p` meets plain constructors only, every `.load` is a hit, every look-up and read
is recorded. (Mirrors `eval` clause by clause.) -/
def hitRun (env : Env) : Nat → St → Prog → Bool
  | 0, _, _ => true
  | _+1, _, .ret _ => true
  | _+1, _, .fail _ => true
  | _+1, _, .panic => true
  | f+1, s, .read id ext k =>
      recordsRead env.hasReloader &&
      hitRun env f { s.record (recordsRead env.hasReloader) (.file id ext) with
                       ios := (s.record (recordsRead env.hasReloader) (.file id ext)).ios + 1 }
        (k (env.read (s.record (recordsRead env.hasReloader) (.file id ext)).ios id ext))
  | f+1, s, .readDir id k =>
      recordsRead env.hasReloader &&
      hitRun env f { s.record (recordsRead env.hasReloader) (.dir id) with
                       ios := (s.record (recordsRead env.hasReloader) (.dir id)).ios + 1 }
        (k (env.readDir (s.record (recordsRead env.hasReloader) (.dir id)).ios id))
  | f+1, s, .getCached key k =>
      recordsAsset (env.types key.ty).hot env.hasReloader &&
      hitRun env f (s.record (recordsAsset (env.types key.ty).hot env.hasReloader) (.asset key))
        (k (((s.record (recordsAsset (env.types key.ty).hot env.hasReloader) (.asset key)).lookup key).map (·.val)))
  | f+1, s, .tick k => hitRun env f { s with loads := s.loads + 1 } (k (env.loaderFault s.loads))
  | f+1, s, .load key k =>
      recordsAsset (env.types key.ty).hot env.hasReloader &&
      (match (s.record (recordsAsset (env.types key.ty).hot env.hasReloader) (.asset key)).lookup key with
       | some c => hitRun env f (s.record (recordsAsset (env.types key.ty).hot env.hasReloader) (.asset key)) (k (.ok c.val))
       | none => false)
  | _+1, _, .noRecord _ _ => false
  | _+1, _, .onThread _ _ => false
  | _+1, _, .tryCatch _ _ => false
  | _+1, _, .loadOwned _ _ => false
  | _+1, _, .getOrInsert _ _ _ => false

/-- `p` ends the evaluation at once, with outcome `o` -/
inductive Prog.Done : Prog → Outcome → Prop
  | ret (v : Val) : Done (.ret v) (.ok v)
  | fail (e : LErr) : Done (.fail e) (.err e)
  | panic : Done .panic .panicked

/-- One step of a tracked hit-only run: the plain node `p` makes a recorded look-up that is answered
without a nested evaluation (or passes a checkpoint), and the evaluation goes on from `s'` with `p'`. -/
inductive HitStep (env : Env) (s : St) : Prog → St → Prog → Prop
  | read (id ext k) : recordsRead env.hasReloader = true →
      HitStep env s (.read id ext k)
        { s.record true (.file id ext) with ios := (s.record true (.file id ext)).ios + 1 }
        (k (env.read (s.record true (.file id ext)).ios id ext))
  | readDir (id k) : recordsRead env.hasReloader = true →
      HitStep env s (.readDir id k)
        { s.record true (.dir id) with ios := (s.record true (.dir id)).ios + 1 }
        (k (env.readDir (s.record true (.dir id)).ios id))
  | getCached (key k) : recordsAsset (env.types key.ty).hot env.hasReloader = true →
      HitStep env s (.getCached key k) (s.record true (.asset key)) (k ((s.lookup key).map (·.val)))
  | tick (k) : HitStep env s (.tick k) { s with loads := s.loads + 1 } (k (env.loaderFault s.loads))
  | load (key k c) : recordsAsset (env.types key.ty).hot env.hasReloader = true → s.lookup key = some c →
      HitStep env s (.load key k) (s.record true (.asset key)) (k (.ok c.val))

/-- the look-up a node makes first, as it is recorded -/
def Prog.dep : Prog → Option Dep
  | .read id ext _ => some (.file id ext)
  | .readDir id _ => some (.dir id)
  | .getCached key _ | .load key _ | .loadOwned key _ | .getOrInsert key _ _ => some (.asset key)
  | _ => none

theorem Prog.Done.eval {p : Prog} {o : Outcome} (h : p.Done o) (env : Env) (f : Nat) (s : St) :
    eval env (f + 1) s p = (s, o) := by
  cases h <;> rfl

theorem Prog.Done.hitRun {p : Prog} {o : Outcome} (h : p.Done o) (env : Env) (f : Nat) (s : St) :
    hitRun env f s p = true := by
  cases f <;> cases h <;> rfl

namespace HitStep
variable {env : Env} {s s' : St} {p p' : Prog}

theorem eval (h : HitStep env s p s' p') (f : Nat) : eval env (f + 1) s p = Model.eval env f s' p' := by
  cases h with
  | read id ext k hb => simp only [Model.eval, hb]
  | readDir id k hb => simp only [Model.eval, hb]
  | getCached key k hb => simp only [Model.eval, hb, St.record_lookup]
  | tick k => simp only [Model.eval]
  | load key k c hb hl => simp only [Model.eval, hb, St.record_lookup, hl]

theorem hitRun (h : HitStep env s p s' p') (f : Nat) : hitRun env (f + 1) s p = Model.hitRun env f s' p' := by
  cases h with
  | read id ext k hb => simp only [Model.hitRun, hb, Bool.true_and]
  | readDir id k hb => simp only [Model.hitRun, hb, Bool.true_and]
  | getCached key k hb => simp only [Model.hitRun, hb, Bool.true_and, St.record_lookup]
  | tick k => simp only [Model.hitRun]
  | load key k c hb hl => simp only [Model.hitRun, hb, Bool.true_and, St.record_lookup, hl]

/-- a step leaves the map and the channel alone and only adds to the top recording frame -/
theorem keeps (h : HitStep env s p s' p') : s'.map = s.map ∧ s'.out = s.out ∧ TopMono s s' := by
  cases h with
  | read id ext k hb =>
    exact ⟨St.record_map s true _, St.record_out s true _, (topMono_record s true _).trans (.of_recs_eq rfl)⟩
  | readDir id k hb =>
    exact ⟨St.record_map s true _, St.record_out s true _, (topMono_record s true _).trans (.of_recs_eq rfl)⟩
  | getCached key k hb => exact ⟨St.record_map s true _, St.record_out s true _, topMono_record s true _⟩
  | tick k => exact ⟨rfl, rfl, .of_recs_eq rfl⟩
  | load key k c hb hl => exact ⟨St.record_map s true _, St.record_out s true _, topMono_record s true _⟩

/-- the look-up of the step is in the top frame afterwards -/
theorem dep_mem (h : HitStep env s p s' p') {ds : List Dep} {rs} (hs : s.recs = some ds :: rs) {d : Dep}
    (hd : p.dep = some d) : d ∈ s'.top := by
  have hmem : d ∈ (s.record true d).top := by
    rw [St.top_of_recs (St.record_recs hs d)]; exact (mem_depInsert _ _ _).mpr (Or.inl rfl)
  cases h <;> cases hd <;> exact hmem

end HitStep

/-- a tracked hit-only run with fuel left is over, or makes a step and is a tracked hit-only run from there -/
theorem hitRun_succ {env : Env} {f : Nat} {s : St} {p : Prog} (h : hitRun env (f + 1) s p = true) :
    (∃ o, p.Done o) ∨ ∃ s' p', HitStep env s p s' p' ∧ hitRun env f s' p' = true := by
  cases p with
  | ret v => exact .inl ⟨_, .ret v⟩
  | fail e => exact .inl ⟨_, .fail e⟩
  | panic => exact .inl ⟨_, .panic⟩
  | read id ext k =>
    simp only [hitRun, Bool.and_eq_true] at h
    have hb := h.1
    rw [hb] at h
    exact .inr ⟨_, _, .read id ext k hb, h.2⟩
  | readDir id k =>
    simp only [hitRun, Bool.and_eq_true] at h
    have hb := h.1
    rw [hb] at h
    exact .inr ⟨_, _, .readDir id k hb, h.2⟩
  | getCached key k =>
    simp only [hitRun, Bool.and_eq_true] at h
    have hb := h.1
    rw [hb] at h
    simp only [St.record_lookup] at h
    exact .inr ⟨_, _, .getCached key k hb, h.2⟩
  | tick k => exact .inr ⟨_, _, .tick k, h⟩
  | load key k =>
    simp only [hitRun, Bool.and_eq_true] at h
    have hb := h.1
    rw [hb] at h
    simp only [St.record_lookup] at h
    cases hl : s.lookup key with
    | none => rw [hl] at h; exact absurd h.2 (by simp)
    | some c => rw [hl] at h; exact .inr ⟨_, _, .load key k c hb hl, h.2⟩
  | noRecord | onThread | tryCatch | loadOwned | getOrInsert => cases h

/-- Induction over a tracked hit-only run (`induction f, s, p, h using hitRun_induct`): out of fuel, over at
once, or one step and the rest. -/
theorem hitRun_induct {env : Env} {M : ∀ (f : Nat) (s : St) (p : Prog), hitRun env f s p = true → Prop}
    (zero : ∀ s p, M 0 s p rfl)
    (done : ∀ f s p o (hd : p.Done o), M (f + 1) s p (hd.hitRun env (f + 1) s))
    (step : ∀ f s p s' p' (hst : HitStep env s p s' p') (hr : hitRun env f s' p' = true),
      M f s' p' hr → M (f + 1) s p ((hst.hitRun f).trans hr)) :
    ∀ f s p (h : hitRun env f s p = true), M f s p h := by
  intro f
  induction f with
  | zero => intro s p _; exact zero s p
  | succ f ih =>
    intro s p h
    rcases hitRun_succ h with ⟨o, hd⟩ | ⟨s', p', hs, hr⟩
    · exact done f s p o hd
    · exact step f s p s' p' hs hr (ih s' p' hr)

/-- A tracked hit-only run does not touch the map and sends nothing to the reloader. -/
theorem hitRun_keeps (env : Env) (f : Nat) (s : St) (p : Prog) (hh : hitRun env f s p = true) :
    (eval env f s p).1.map = s.map ∧ (eval env f s p).1.out = s.out := by
  induction f, s, p, hh using hitRun_induct with
  | zero s p => exact ⟨rfl, rfl⟩
  | done f s p o hd => rw [hd.eval]; exact ⟨rfl, rfl⟩
  | step f s p s' p' hst _ ih => rw [hst.eval, ih.1, ih.2]; exact ⟨hst.keeps.1, hst.keeps.2.1⟩

/-- A tracked hit-only run keeps the stack below the top frame, only adds to the top frame, and
does not touch the map. -/
theorem hitRun_frame (env : Env) (f : Nat) (p : Prog) (s : St) (ds : List Dep) (rs : List (Option (List Dep)))
    (hs : s.recs = some ds :: rs) (hh : hitRun env f s p = true) :
    (eval env f s p).1.recs = some (eval env f s p).1.top :: rs ∧
    (∀ d ∈ ds, d ∈ (eval env f s p).1.top) ∧ (eval env f s p).1.map = s.map := by
  obtain ⟨ds', e, m⟩ := eval_topMono env f s p ds rs hs
  rw [St.top_of_recs e]
  exact ⟨e, m, (hitRun_keeps env f s p hh).1⟩

/-- A tracked hit-only run sends nothing to the reloader (nothing new is registered). -/
theorem hitRun_out (env : Env) (f : Nat) (p : Prog) (s : St) (hh : hitRun env f s p = true) :
    (eval env f s p).1.out = s.out := (hitRun_keeps env f s p hh).2

/-! ## Read-set determinacy -/

/-- `env'` runs the same loaders as `env`: same type table, same reloader flag, same answers of the
loader fault plan. Only the source may differ. -/
structure SameLoaders (env env' : Env) : Prop where
  types : env'.types = env.types
  hasReloader : env'.hasReloader = env.hasReloader
  fault : ∀ i j, env'.loaderFault i = env.loaderFault j

theorem SameLoaders.refl {env : Env} (h : env.Steady) : SameLoaders env env := ⟨rfl, rfl, h.2.2⟩

/-- `(env', t)` answers a look-up of `d` like `(env, s)`: same content of the file / directory, same
cached **value** of the asset (or absent in both). Reload id, flag, address are not compared. -/
def AgreeOn (env env' : Env) (s t : St) : Dep → Prop
  | .file id ext => env'.read 0 id ext = env.read 0 id ext
  | .dir id => env'.readDir 0 id = env.readDir 0 id
  | .asset k => (t.lookup k).map (·.val) = (s.lookup k).map (·.val)

theorem AgreeOn.congr {env env' : Env} {s t s' t' : St} {d : Dep}
    (hs : ∀ k, s'.lookup k = s.lookup k) (ht : ∀ k, t'.lookup k = t.lookup k)
    (h : AgreeOn env env' s t d) : AgreeOn env env' s' t' d := by
  cases d with
  | file id ext => exact h
  | dir id => exact h
  | asset k => simp only [AgreeOn] at h ⊢; rw [hs, ht]; exact h

theorem AgreeOn.refl {env : Env} (s : St) (d : Dep) : AgreeOn env env s s d := by
  cases d <;> rfl

theorem AgreeOn.of_map_eq {env env' : Env} {s t s' t' : St} {d : Dep} (hs : s'.map = s.map) (ht : t'.map = t.map)
    (h : AgreeOn env env' s t d) : AgreeOn env env' s' t' d :=
  h.congr (St.lookup_congr hs) (St.lookup_congr ht)

/-- under one environment two caches agree on `d` as soon as they hold the same under the asset key `d` names
(files and directories read the same anyway) -/
theorem agreeOn_same_env {env : Env} {s t : St} {d : Dep}
    (h : ∀ y, d = .asset y → t.lookup y = s.lookup y) : AgreeOn env env s t d := by
  cases d with
  | file id ext => rfl
  | dir id => rfl
  | asset y => simp only [AgreeOn]; rw [h y rfl]

/-- **Two runs that agree on what a step reads make the same step.** If `(env', t)` answers the look-up
of the step like `(env, s)`, then `t` makes the step of the same kind, to the same program, and records
the same. -/
theorem HitStep.agree {env env' : Env} (hS : env.Steady) (hS' : env'.Steady) (hL : SameLoaders env env')
    {s s' t : St} {p p' : Prog} (h : HitStep env s p s' p') {ds : List Dep} {rs rt : List (Option (List Dep))}
    (hs : s.recs = some ds :: rs) (ht : t.recs = some ds :: rt) (hag : ∀ d, p.dep = some d → AgreeOn env env' s t d) :
    ∃ t' ds', HitStep env' t p t' p' ∧ s'.recs = some ds' :: rs ∧ t'.recs = some ds' :: rt := by
  have hR : recordsRead env'.hasReloader = recordsRead env.hasReloader := by rw [hL.hasReloader]
  have hA : ∀ key : Key, recordsAsset (env'.types key.ty).hot env'.hasReloader =
      recordsAsset (env.types key.ty).hot env.hasReloader := fun key => by rw [hL.types, hL.hasReloader]
  cases h with
  | read id ext k hb =>
    have hr : env.read (s.record true (.file id ext)).ios id ext = env'.read (t.record true (.file id ext)).ios id ext := by
      rw [hS'.1 _ 0, hS.1 _ 0]; exact (hag _ rfl).symm
    -- the program the step goes on with is written with `t`'s answer, which is `s`'s (so in every case below)
    rw [hr]
    exact ⟨_, _, .read id ext k (hR.trans hb), St.record_recs hs _, St.record_recs ht _⟩
  | readDir id k hb =>
    have hr : env.readDir (s.record true (.dir id)).ios id = env'.readDir (t.record true (.dir id)).ios id := by
      rw [hS'.2.1 _ 0, hS.2.1 _ 0]; exact (hag _ rfl).symm
    rw [hr]
    exact ⟨_, _, .readDir id k (hR.trans hb), St.record_recs hs _, St.record_recs ht _⟩
  | getCached key k hb =>
    have hr : (s.lookup key).map (·.val) = (t.lookup key).map (·.val) := (hag _ rfl).symm
    rw [hr]
    exact ⟨_, _, .getCached key k ((hA key).trans hb), St.record_recs hs _, St.record_recs ht _⟩
  | tick k =>
    rw [← hL.fault t.loads s.loads]
    exact ⟨_, _, .tick k, hs, ht⟩
  | load key k c hb hl =>
    have hr : (t.lookup key).map (·.val) = (s.lookup key).map (·.val) := hag _ rfl
    cases hlt : t.lookup key with
    | none => rw [hl, hlt] at hr; cases hr
    | some c' =>
      have hv : c.val = c'.val := by rw [hl, hlt] at hr; exact (Option.some.inj hr).symm
      rw [hv]
      exact ⟨_, _, .load key k c' ((hA key).trans hb) hlt, St.record_recs hs _, St.record_recs ht _⟩

/-- **Read-set determinacy.** A tracked hit-only run is a function of the entries it recorded:
under every `(env', t)` that agrees with `(env, s)` on the final record (and has a recording frame
with the same content on top), the evaluation is again a tracked hit-only run, with the same outcome
and the same final record. -/
theorem eval_readset {env env' : Env} (hS : env.Steady) (hS' : env'.Steady) (hL : SameLoaders env env') :
    ∀ (f : Nat) (p : Prog) (s t : St) (ds : List Dep) (rs rt : List (Option (List Dep))),
    s.recs = some ds :: rs → t.recs = some ds :: rt → hitRun env f s p = true →
    (∀ d ∈ (eval env f s p).1.top, AgreeOn env env' s t d) →
    hitRun env' f t p = true ∧ (eval env' f t p).2 = (eval env f s p).2 ∧
    (eval env' f t p).1.top = (eval env f s p).1.top := by
  intro f p s t ds rs rt hs ht hh
  induction f, s, p, hh using hitRun_induct generalizing t ds rs rt with
  | zero s p => intro _; exact ⟨rfl, rfl, (St.top_of_recs ht).trans (St.top_of_recs hs).symm⟩
  | done f s p o hd =>
    intro _
    rw [hd.eval, hd.eval]
    exact ⟨hd.hitRun env' _ t, rfl, (St.top_of_recs ht).trans (St.top_of_recs hs).symm⟩
  | step f s p s' p' hst _ ih =>
    intro hag
    rw [hst.eval] at hag ⊢
    -- what the step recorded is still in the final record
    obtain ⟨dsf, ef, _⟩ := hst.keeps.2.2 ds rs hs
    obtain ⟨dsF, eF, mF⟩ := eval_topMono env f s' p' dsf rs ef
    have hag' : ∀ d, p.dep = some d → AgreeOn env env' s t d := fun d hd =>
      hag d (by rw [St.top_of_recs eF]; exact mF d (by have := hst.dep_mem hs hd; rwa [St.top_of_recs ef] at this))
    obtain ⟨t', ds', htst, es, et⟩ := hst.agree hS hS' hL hs ht hag'
    rw [htst.eval, htst.hitRun]
    exact ih t' ds' rs rt es et (fun d hd => (hag d hd).of_map_eq hst.keeps.1 htst.keeps.1)

/-! ## The evaluation of a reload -/

/-- the state `reload_untyped` starts the loader from: the reloader thread's own stack with one
fresh record -/
def St.fresh (s : St) : St := { s with recs := [some []] }

@[simp] theorem St.fresh_lookup (s : St) (k : Key) : s.fresh.lookup k = s.lookup k := rfl
@[simp] theorem St.fresh_map (s : St) : s.fresh.map = s.map := rfl

theorem reloadEval_eq (env : Env) (fuel : Nat) (s : St) (key : Key) :
    reloadEval env fuel s key =
      ({ (eval env fuel s.fresh ((env.types key.ty).prog key.id)).1 with recs := [] },
       (eval env fuel s.fresh ((env.types key.ty).prog key.id)).2,
       (eval env fuel s.fresh ((env.types key.ty).prog key.id)).1.top) := rfl

/-- the outcome of re-evaluating the loader of `key` against the current cache -/
def reloadOut (env : Env) (fuel : Nat) (s : St) (key : Key) : Outcome := (reloadEval env fuel s key).2.1
/-- what that evaluation records -/
def reloadDeps (env : Env) (fuel : Nat) (s : St) (key : Key) : List Dep := (reloadEval env fuel s key).2.2
/-- that evaluation is a tracked hit-only run -/
def reloadHit (env : Env) (fuel : Nat) (s : St) (key : Key) : Bool :=
  hitRun env fuel s.fresh ((env.types key.ty).prog key.id)

theorem reloadHit_map {env : Env} {fuel : Nat} {s : St} {key : Key} (h : reloadHit env fuel s key = true) :
    (reloadEval env fuel s key).1.map = s.map :=
  (hitRun_frame env fuel _ s.fresh [] [] rfl h).2.2

theorem reloadHit_lookup {env : Env} {fuel : Nat} {s : St} {key : Key} (h : reloadHit env fuel s key = true) (k : Key) :
    (reloadEval env fuel s key).1.lookup k = s.lookup k :=
  St.lookup_congr (reloadHit_map h) k

theorem reloadHit_out {env : Env} {fuel : Nat} {s : St} {key : Key} (h : reloadHit env fuel s key = true) :
    (reloadEval env fuel s key).1.out = s.out :=
  hitRun_out env fuel _ s.fresh h

/-- **Read-set determinacy of a reload.** If re-evaluating `key` under `(env, s)` is a tracked
hit-only run and `(env', t)` agrees with `(env, s)` on everything it records, then re-evaluating
`key` under `(env', t)` is a tracked hit-only run with the same outcome and the same record. -/
theorem reloadEval_readset {env env' : Env} (hS : env.Steady) (hS' : env'.Steady) (hL : SameLoaders env env')
    (fuel : Nat) (s t : St) (key : Key) (hh : reloadHit env fuel s key = true)
    (hag : ∀ d ∈ reloadDeps env fuel s key, AgreeOn env env' s t d) :
    reloadHit env' fuel t key = true ∧ reloadOut env' fuel t key = reloadOut env fuel s key ∧
    reloadDeps env' fuel t key = reloadDeps env fuel s key := by
  have h := eval_readset hS hS' hL fuel ((env.types key.ty).prog key.id) s.fresh t.fresh [] [] [] rfl rfl hh
    (fun d hd => (hag d hd).congr (fun _ => rfl) (fun _ => rfl))
  unfold reloadHit reloadOut reloadDeps
  rw [reloadEval_eq, reloadEval_eq, hL.types]
  exact h

/-! ## Steps that leave alone what was read -/

/-- `t` holds under every asset key that `D` lists what `s` holds (absent in both included) -/
def SameOn (s t : St) (D : List Dep) : Prop := ∀ y, Dep.asset y ∈ D → t.lookup y = s.lookup y

/-- the cache grew and filled none of the keys `D` lists while absent -/
theorem SameOn.of_le {s t : St} {D : List Dep} (hle : s.Le t)
    (hfill : ∀ y, Dep.asset y ∈ D → s.lookup y = none → t.lookup y = none) : SameOn s t D := by
  intro y hy
  cases h : s.lookup y with
  | some c => exact hle y c h
  | none => exact hfill y hy h

/-- only `key` changed, and `D` does not list it -/
theorem SameOn.of_ne {s t : St} {D : List Dep} {key : Key} (hother : ∀ k, k ≠ key → t.lookup k = s.lookup k)
    (h : Dep.asset key ∉ D) : SameOn s t D :=
  fun y hy => hother y (fun e => h (e ▸ hy))

/-- **Under one environment a re-evaluation that is a tracked hit-only run is the same in every cache that
holds the same under the keys it records** (`reloadEval_readset`). -/
theorem reloadEval_sameOn {env : Env} (hS : env.Steady) {fuel : Nat} {s t : St} {key : Key}
    (hh : reloadHit env fuel s key = true) (hsame : SameOn s t (reloadDeps env fuel s key)) :
    reloadHit env fuel t key = true ∧ reloadOut env fuel t key = reloadOut env fuel s key ∧
    reloadDeps env fuel t key = reloadDeps env fuel s key :=
  reloadEval_readset hS hS (SameLoaders.refl hS) fuel s t key hh
    fun _ hd => agreeOn_same_env fun y e => hsame y (e ▸ hd)

/-! ## Plain loaders under an all-hot environment -/

theorem St.isSome_lookup_congr {s t : St} (h : t.map = s.map) {key : Key} (h2 : (s.lookup key).isSome = true) :
    (t.lookup key).isSome = true := by
  rw [St.lookup_congr h]; exact h2

/-- under an all-hot environment a plain node is over, makes a step of a tracked hit-only run to a plain
program, or is a `.load` that misses -/
theorem Prog.Plain.step {env : Env} (hhot : env.Hot) {p : Prog} (hp : p.Plain) (s : St) :
    (∃ o, p.Done o) ∨ (∃ s' p', HitStep env s p s' p' ∧ p'.Plain) ∨ ∃ key k, p = .load key k ∧ s.lookup key = none := by
  have hR : recordsRead env.hasReloader = true := hhot.1
  cases hp with
  | ret v => exact .inl ⟨_, .ret v⟩
  | fail e => exact .inl ⟨_, .fail e⟩
  | panic => exact .inl ⟨_, .panic⟩
  | read id ext k hk => exact .inr (.inl ⟨_, _, .read id ext k hR, hk _⟩)
  | readDir id k hk => exact .inr (.inl ⟨_, _, .readDir id k hR, hk _⟩)
  | getCached key k hk => exact .inr (.inl ⟨_, _, .getCached key k (hhot.recordsAsset key.ty), hk _⟩)
  | tick k hk => exact .inr (.inl ⟨_, _, .tick k, hk _⟩)
  | load key k hk =>
    cases hl : s.lookup key with
    | some c => exact .inr (.inl ⟨_, _, .load key k c (hhot.recordsAsset key.ty) hl, hk _⟩)
    | none => exact .inr (.inr ⟨key, k, rfl, hl⟩)

/-- **Plain loaders.** Under an environment whose types are all hot-reloaded, the evaluation of a
`Plain` loader is a tracked hit-only run as soon as every asset it records is cached — a `.load` of
an asset that is not cached (a miss) leaves that asset in the record. -/
theorem hitRun_of_plain {env : Env} (hhot : env.Hot) : ∀ (f : Nat) (p : Prog) (s : St) (ds : List Dep) (rs),
    p.Plain → s.recs = some ds :: rs →
    (∀ key, Dep.asset key ∈ (eval env f s p).1.top → (s.lookup key).isSome = true) →
    hitRun env f s p = true := by
  intro f
  induction f with
  | zero => intro p s ds rs _ _ _; rfl
  | succ f ih =>
    intro p s ds rs hp hs hc
    rcases hp.step hhot s with ⟨o, hd⟩ | ⟨s', p', hst, hp'⟩ | ⟨key, k, rfl, hl⟩
    · exact hd.hitRun env _ s
    · obtain ⟨ds', e, _⟩ := hst.keeps.2.2 ds rs hs
      rw [hst.eval] at hc
      rw [hst.hitRun]
      exact ih p' s' ds' rs hp' e (fun key h => St.isSome_lookup_congr hst.keeps.1 (hc key h))
    · -- the miss is recorded first and stays in the record, yet the key is absent
      exfalso
      have hA := hhot.recordsAsset key.ty
      have hT := TopMono.evalRel env (fun _ => True)
      -- from the state AFTER the record, so `eval_topMono` from `s` does not do: the clause of `eval` piece by piece
      have h1 : TopMono (s.record true (.asset key)) (eval env (f + 1) s (.load key k)).1 := by
        rw [eval_load_miss₀ env f s key k hl, hA]
        exact hT.trans (hT.loadAndRecord _ key _ fun s => eval_topMono env f s _)
          (hT.okOr _ _ _ (fun v s => hT.trans (hT.addLoad s key v k trivial) (eval_topMono env f _ _))
            fun r s => eval_topMono env f s _)
      obtain ⟨ds', e', m'⟩ := h1 _ rs (St.record_recs hs (.asset key))
      have := hc key (by rw [St.top_of_recs e']; exact m' _ ((mem_depInsert _ _ _).mpr (Or.inl rfl)))
      rw [hl] at this
      cases this

/-- **Read-set determinacy, for `Plain` loaders** (the formulation with a predicate on `Prog`): under
an all-hot environment, if the evaluation of a plain loader records the dependency list `D`, every
asset of `D` is cached (so every `.load` was a hit), and `(env', t)` agrees with `(env, s)` on `D`,
then the evaluation under `(env', t)` has the same outcome, records the same `D`, and both leave the
map alone. -/
theorem eval_readset_plain {env env' : Env} (hS : env.Steady) (hS' : env'.Steady) (hL : SameLoaders env env')
    (hhot : env.Hot) (f : Nat) (p : Prog) (hp : p.Plain) (s t : St) (ds : List Dep) (rs rt : List (Option (List Dep)))
    (hs : s.recs = some ds :: rs) (ht : t.recs = some ds :: rt)
    (hcached : ∀ key, Dep.asset key ∈ (eval env f s p).1.top → (s.lookup key).isSome = true)
    (hag : ∀ d ∈ (eval env f s p).1.top, AgreeOn env env' s t d) :
    (eval env' f t p).2 = (eval env f s p).2 ∧ (eval env' f t p).1.top = (eval env f s p).1.top ∧
    (eval env f s p).1.map = s.map ∧ (eval env' f t p).1.map = t.map := by
  have hh := hitRun_of_plain hhot f p s ds rs hp hs hcached
  obtain ⟨h1, h2, h3⟩ := eval_readset hS hS' hL f p s t ds rs rt hs ht hh hag
  exact ⟨h2, h3, (hitRun_frame env f p s ds rs hs hh).2.2, (hitRun_frame env' f p t ds rt ht h1).2.2⟩

/-! ## Why "hit-only" has to mean "no miss", not just "nothing inserted"

With "the run inserted nothing" (`(eval env f s p).1.map = s.map`) in place of `hitRun`, and `Plain`
required of the loader `p` only, read-set determinacy is **false**: a `.load` of an asset that is not
cached evaluates that asset's loader — any program of the type table — and when it fails nothing is
inserted, but its error (which `p` may return) can depend on reads it made under `no_record`. -/

namespace ReadSetCounterexample

/-- the nested loader: fails either way; which error depends on an unrecorded read of `y.s` -/
def nested : Prog :=
  .noRecord (.read "y" "s" fun r =>
    match r with
    | .ok _ => .fail (.custom "a")
    | .error _ => .fail (.custom "b")) Prog.ret'

/-- the plain loader: load `x`, return what that gives -/
def parent : Prog := .load ⟨1, "x"⟩ Prog.ret'

def cenv (y : Bool) : Env :=
  { read := fun _ _ _ => if y then .ok [] else .error ⟨true, "NotFound", "y"⟩
    readDir := fun _ _ => .ok []
    types := fun ty => { hot := true, prog := fun _ => if ty = 1 then nested else parent }
    hasReloader := true }

def s0 : St := { recs := [some []] }

theorem parent_plain : parent.Plain :=
  Prog.Plain.load _ _ (fun r => by cases r <;> constructor)

/-- `parent` is plain, the environments are steady, all-hot and run the same loaders, the run
under `cenv true` inserts nothing and records only `.asset x`, on which the two sides agree (absent
in both) — and the outcomes differ. -/
theorem readset_false_with_map_unchanged :
    parent.Plain ∧ (cenv true).Hot ∧ (cenv true).Steady ∧ (cenv false).Steady ∧ SameLoaders (cenv true) (cenv false) ∧
    (eval (cenv true) 10 s0 parent).1.map = s0.map ∧
    (∀ d ∈ (eval (cenv true) 10 s0 parent).1.top, AgreeOn (cenv true) (cenv false) s0 s0 d) ∧
    (eval (cenv false) 10 s0 parent).2 ≠ (eval (cenv true) 10 s0 parent).2 ∧
    hitRun (cenv true) 10 s0 parent = false := by
  refine ⟨parent_plain, ⟨rfl, fun _ => rfl⟩, ⟨fun _ _ _ _ => rfl, fun _ _ _ => rfl, fun _ _ => rfl⟩,
    ⟨fun _ _ _ _ => rfl, fun _ _ _ => rfl, fun _ _ => rfl⟩, ⟨rfl, rfl, fun _ _ => rfl⟩, by decide, ?_, by decide, by decide⟩
  intro d hd
  have htop : (eval (cenv true) 10 s0 parent).1.top = [Dep.asset ⟨1, "x"⟩] := by decide
  rw [htop] at hd
  rw [List.mem_singleton.mp hd]
  rfl

end ReadSetCounterexample

end AmVerif.Model
