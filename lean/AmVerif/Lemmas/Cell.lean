import AmVerif.Model.Cell
/-!
# The global invariant of the `OnceInitCell` interleaving model

`Inv` describes every reachable state by the phase of the once:
* empty   — the union holds the seed, nothing was dropped, nobody holds a register;
* running r — thread `r` is inside the closure at a program point that fixes where seed and value are;
* done    — the union holds the value for good; the seed is either still held in the `uninit_value`
            local of exactly one thread (about to be dropped) or accounted for in the ledger.
The program points named in `preAt` / `postAt` / `runnerOK` are positions in the *generated* programs
`Gen.Cell.initDefault/initNoDrop`, to which the zone lemmas (`preAt_tok`, `postAt_tok`, `runnerOK_tok`) tie
them. `preAt` is the part before the once-closure, `runnerOK` the part inside it, `postAt` the part after it:

    dflt    0 slotNone   1 onceEnter | 2 borrow   3 callF   4 mkState   5 replace   6 escape   7 closureOk
            | 8 onceExit   9 dropEscaped   10 ret
    noDrop  0 onceEnter | 1 borrow   2 callF   3 overwrite   4 closureOk | 5 onceExit   6 ret
-/
namespace AmVerif.Model.Cell
open AmVerif.Gen.Cell

def regsNone (a : Act) : Prop := a.val = none ∧ a.tmp = none ∧ a.slot = none

def preAt (a : Act) : Prop :=
  (a.path = .dflt ∧ (a.pc = 0 ∨ a.pc = 1)) ∨ (a.path = .noDrop ∧ a.pc = 0)

def postAt (a : Act) : Prop :=
  (a.path = .dflt ∧ (a.pc = 8 ∨ a.pc = 9 ∨ a.pc = 10)) ∨ (a.path = .noDrop ∧ (a.pc = 5 ∨ a.pc = 6))

/-- not in a call, or in a call that has not reached the once yet -/
def quiet (th : Th) : Prop := ∀ a, th.act = some a → preAt a ∧ regsNone a

/-- as `quiet`, or past the once (possibly still holding the escaped seed before `drop_cold`) -/
def quietPost (th : Th) : Prop :=
  ∀ a, th.act = some a →
    (preAt a ∧ regsNone a) ∨
    (postAt a ∧ a.val = none ∧ a.tmp = none ∧ (a.slot ≠ none → a.path = .dflt ∧ (a.pc = 8 ∨ a.pc = 9)))

def ledger0 (sh : Sh) : Prop := sh.seedDrops = 0 ∧ sh.seedLeaks = 0

/-- where the thread inside the closure stands, and what that says about union and registers -/
def runnerOK (sh : Sh) (a : Act) : Prop :=
  (a.path = .dflt ∧ (a.pc = 2 ∨ a.pc = 3) ∧ regsNone a ∧ (∃ c, sh.data = .seed c) ∧ sh.inits = 0 ∧ ledger0 sh) ∨
  (a.path = .dflt ∧ (a.pc = 4 ∨ a.pc = 5) ∧ (∃ v, a.val = some v) ∧ a.tmp = none ∧ a.slot = none ∧
      (∃ c, sh.data = .seed c) ∧ sh.inits = 1 ∧ ledger0 sh) ∨
  (a.path = .dflt ∧ a.pc = 6 ∧ a.val = none ∧ (∃ c, a.tmp = some c) ∧ a.slot = none ∧
      (∃ v, sh.data = .value v) ∧ sh.inits = 1 ∧ ledger0 sh) ∨
  (a.path = .dflt ∧ a.pc = 7 ∧ a.val = none ∧ a.tmp = none ∧ (∃ c, a.slot = some c) ∧
      (∃ v, sh.data = .value v) ∧ sh.inits = 1 ∧ ledger0 sh) ∨
  (a.path = .noDrop ∧ (a.pc = 1 ∨ a.pc = 2) ∧ regsNone a ∧ (∃ c, sh.data = .seed c) ∧ sh.inits = 0 ∧ ledger0 sh) ∨
  (a.path = .noDrop ∧ a.pc = 3 ∧ (∃ v, a.val = some v) ∧ a.tmp = none ∧ a.slot = none ∧
      (∃ c, sh.data = .seed c) ∧ sh.inits = 1 ∧ ledger0 sh) ∨
  (a.path = .noDrop ∧ a.pc = 4 ∧ regsNone a ∧ (∃ v, sh.data = .value v) ∧ sh.inits = 1 ∧
      sh.seedDrops = 0 ∧ sh.seedLeaks = 1)

/-- once initialised: the seed is in exactly one place — one thread's `uninit_value`, or the ledger -/
def acct (s : Sys) : Prop :=
  ((∀ u a, (s.ths u).act = some a → a.slot = none) ∧ s.sh.seedDrops + s.sh.seedLeaks = 1) ∨
  (∃ h a, (s.ths h).act = some a ∧ a.slot ≠ none ∧
    (∀ u, u ≠ h → ∀ b, (s.ths u).act = some b → b.slot = none) ∧ ledger0 s.sh)

def Phase (s : Sys) : Prop :=
  (s.sh.once = .empty ∧ (∃ c, s.sh.data = .seed c) ∧ s.sh.inits = 0 ∧ ledger0 s.sh ∧ ∀ u, quiet (s.ths u)) ∨
  (∃ r a, s.sh.once = .running r ∧ (s.ths r).act = some a ∧ runnerOK s.sh a ∧ ∀ u, u ≠ r → quiet (s.ths u)) ∨
  (s.sh.once = .done ∧ (∃ v, s.sh.data = .value v) ∧ s.sh.inits = 1 ∧ (∀ u, quietPost (s.ths u)) ∧ acct s)

/-- what a result a caller got says about the cell, from then on -/
def resOK (sh : Sh) : Res → Prop
  | .ref v => sh.once = .done ∧ sh.data = .value v
  | .panicDrop => sh.once = .done ∧ sh.kind = .bomb ∧ 1 ≤ sh.seedDrops
  | .ub => False
  | _ => True

structure Inv (s : Sys) : Prop where
  nub : s.sh.ub = false
  phase : Phase s
  res : ∀ u r, r ∈ (s.ths u).results → resOK s.sh r

theorem upd_same (f : Nat → Th) (t : Nat) (x : Th) : upd f t x t = x := by simp [upd]
theorem upd_other (f : Nat → Th) (t u : Nat) (x : Th) (h : u ≠ t) : upd f t x u = f u := by simp [upd, h]

variable {sh sh' : Sh} {ths : Nat → Th} {t : Nat} {th th' : Th} {a a' : Act}

/-- what holds of the other threads and of `t`'s new state holds of every thread after the update -/
theorem upd_all {P : Nat → Th → Prop} (ho : ∀ u, u ≠ t → P u (ths u))
    (ht : P t th') (u : Nat) : P u (upd ths t th' u) := by
  by_cases hu : u = t
  · subst hu; rw [upd_same]; exact ht
  · rw [upd_other _ _ _ _ hu]; exact ho u hu

/-! ## The program point is a token, and tokens lie before / inside / after the once-closure -/

/-- 0: before the once-closure, 1: inside it, 2: after it. -/
def Tok.zone : Tok → Nat
  | .slotNone | .onceEnter => 0
  | .onceExit | .dropEscaped | .ret => 2
  | _ => 1

theorem preAt_tok (h : preAt a) : ∃ tok, (progOf a.path)[a.pc]? = some tok ∧ tok.zone = 0 := by
  rcases h with ⟨hp, hpc | hpc⟩ | ⟨hp, hpc⟩ <;> rw [hp, hpc] <;> exact ⟨_, rfl, rfl⟩

theorem postAt_tok (h : postAt a) : ∃ tok, (progOf a.path)[a.pc]? = some tok ∧ tok.zone = 2 := by
  rcases h with ⟨hp, hpc | hpc | hpc⟩ | ⟨hp, hpc | hpc⟩ <;> rw [hp, hpc] <;> exact ⟨_, rfl, rfl⟩

theorem runnerOK_tok (h : runnerOK sh a) :
    ∃ tok, (progOf a.path)[a.pc]? = some tok ∧ tok.zone = 1 := by
  rcases h with ⟨hp, hpc | hpc, _⟩ | ⟨hp, hpc | hpc, _⟩ | ⟨hp, hpc, _⟩ | ⟨hp, hpc, _⟩ |
    ⟨hp, hpc | hpc, _⟩ | ⟨hp, hpc, _⟩ | ⟨hp, hpc, _⟩ <;> rw [hp, hpc] <;> exact ⟨_, rfl, rfl⟩

theorem quietPost_tok (hq : quietPost th) (ha : th.act = some a) :
    ∃ tok, (progOf a.path)[a.pc]? = some tok ∧ tok.zone ≠ 1 := by
  rcases hq a ha with ⟨hp, _⟩ | ⟨hp, _⟩
  · obtain ⟨tok, h1, h2⟩ := preAt_tok hp; exact ⟨tok, h1, by rw [h2]; decide⟩
  · obtain ⟨tok, h1, h2⟩ := postAt_tok hp; exact ⟨tok, h1, by rw [h2]; decide⟩

theorem quiet_quietPost (h : quiet th) : quietPost th := fun a ha => Or.inl (h a ha)

theorem runner_not_quietPost (ha : th.act = some a)
    (hr : runnerOK sh a) (hq : quietPost th) : False := by
  obtain ⟨tok, h1, z1⟩ := runnerOK_tok hr
  obtain ⟨tok', h2, z2⟩ := quietPost_tok hq ha
  rw [h1] at h2; cases h2; exact z2 z1

/-! ## Re-establishing the phase after thread `t` moved to `th'` -/

theorem phase_empty_upd (h1 : sh'.once = .empty) (h2 : ∃ c, sh'.data = .seed c) (h3 : sh'.inits = 0)
    (h4 : ledger0 sh') (ho : ∀ u, u ≠ t → quiet (ths u)) (ht : quiet th') : Phase ⟨sh', upd ths t th'⟩ :=
  Or.inl ⟨h1, h2, h3, h4, upd_all (P := fun _ => quiet) ho ht⟩

theorem phase_run_self (h1 : sh'.once = .running t) (h2 : th'.act = some a') (h3 : runnerOK sh' a')
    (ho : ∀ u, u ≠ t → quiet (ths u)) : Phase ⟨sh', upd ths t th'⟩ :=
  Or.inr (Or.inl ⟨t, a', h1, (congrArg Th.act (upd_same ths t th')).trans h2, h3,
    upd_all (P := fun u th => u ≠ t → quiet th) (fun u _ => ho u) (fun e => absurd rfl e)⟩)

theorem phase_run_other {r : Nat}
    (hne : r ≠ t) (h1 : sh'.once = .running r) (h2 : (ths r).act = some a) (h3 : runnerOK sh' a)
    (ht : quiet th') (ho : ∀ u, u ≠ r → quiet (ths u)) : Phase ⟨sh', upd ths t th'⟩ :=
  Or.inr (Or.inl ⟨r, a, h1, (congrArg Th.act (upd_other ths t r th' hne)).trans h2, h3,
    upd_all (P := fun u th => u ≠ r → quiet th) (fun u _ => ho u) (fun _ => ht)⟩)

theorem phase_done_upd (h1 : sh'.once = .done) (h2 : ∃ v, sh'.data = .value v) (h3 : sh'.inits = 1)
    (ho : ∀ u, u ≠ t → quietPost (ths u)) (ht : quietPost th')
    (ha : acct ⟨sh', upd ths t th'⟩) : Phase ⟨sh', upd ths t th'⟩ :=
  Or.inr (Or.inr ⟨h1, h2, h3, upd_all (P := fun _ => quietPost) ho ht, ha⟩)

theorem acct_none (ho : ∀ u, u ≠ t → ∀ a, (ths u).act = some a → a.slot = none)
    (ht : ∀ a, th'.act = some a → a.slot = none) (hl : sh'.seedDrops + sh'.seedLeaks = 1) :
    acct ⟨sh', upd ths t th'⟩ :=
  Or.inl ⟨upd_all (P := fun _ th => ∀ a, th.act = some a → a.slot = none) ho ht, hl⟩

theorem acct_self (h2 : th'.act = some a') (h3 : a'.slot ≠ none)
    (ho : ∀ u, u ≠ t → ∀ a, (ths u).act = some a → a.slot = none) (hl : ledger0 sh') :
    acct ⟨sh', upd ths t th'⟩ :=
  Or.inr ⟨t, a', (congrArg Th.act (upd_same ths t th')).trans h2, h3,
    upd_all (P := fun u th => u ≠ t → ∀ b, th.act = some b → b.slot = none) (fun u _ => ho u) (fun e => absurd rfl e), hl⟩

theorem acct_other {h : Nat}
    (hne : h ≠ t) (h2 : (ths h).act = some a) (h3 : a.slot ≠ none)
    (ho : ∀ u, u ≠ h → ∀ b, (ths u).act = some b → b.slot = none)
    (ht : ∀ b, th'.act = some b → b.slot = none) (hl : ledger0 sh') :
    acct ⟨sh', upd ths t th'⟩ :=
  Or.inr ⟨h, a, (congrArg Th.act (upd_other ths t h th' hne)).trans h2, h3,
    upd_all (P := fun u th => u ≠ h → ∀ b, th.act = some b → b.slot = none) (fun u _ => ho u) (fun _ => ht), hl⟩

theorem res_upd (ho : ∀ u r, r ∈ (ths u).results → resOK sh' r) (ht : ∀ r, r ∈ th'.results → resOK sh' r) :
    ∀ u r, r ∈ ((⟨sh', upd ths t th'⟩ : Sys).ths u).results → resOK sh' r :=
  upd_all (P := fun _ th => ∀ r, r ∈ th.results → resOK sh' r) (fun u _ => ho u) ht

/-- results stay valid when a step keeps an initialised cell initialised with the same value -/
theorem resOK_mono {r : Res} (h : resOK sh r) (hk : sh'.kind = sh.kind)
    (hd : sh.once = .done → sh'.once = .done ∧ sh'.data = sh.data ∧ sh.seedDrops ≤ sh'.seedDrops) :
    resOK sh' r := by
  cases r with
  | ref v => obtain ⟨h1, h2⟩ := h; obtain ⟨a, b, _⟩ := hd h1; exact ⟨a, by rw [b, h2]⟩
  | panicDrop =>
    obtain ⟨h1, h2, h3⟩ := h; obtain ⟨a, _, c⟩ := hd h1
    exact ⟨a, by rw [hk, h2], Nat.le_trans h3 c⟩
  | ub => exact h
  | none => trivial
  | err e => trivial
  | panicF => trivial

/-! ## The phase, given the once -/

theorem running_phase (h : Inv ⟨sh, ths⟩)
    (hrun : sh.once = .running t) :
    ∃ a, (ths t).act = some a ∧ runnerOK sh a ∧ ∀ u, u ≠ t → quiet (ths u) := by
  rcases h.phase with ⟨h1, _⟩ | ⟨r, a, h1, h2, h3, hq⟩ | ⟨h1, _⟩
  · rw [h1] at hrun; cases hrun
  · rw [h1] at hrun; cases hrun; exact ⟨a, h2, h3, hq⟩
  · rw [h1] at hrun; cases hrun

theorem done_phase (h : Inv ⟨sh, ths⟩) (hd : sh.once = .done) :
    (∃ v, sh.data = .value v) ∧ sh.inits = 1 ∧ (∀ u, quietPost (ths u)) ∧ acct ⟨sh, ths⟩ := by
  rcases h.phase with ⟨h1, _⟩ | ⟨r, a, h1, _⟩ | ⟨_, h2⟩
  · rw [h1] at hd; cases hd
  · rw [h1] at hd; cases hd
  · exact h2

theorem runnerOK_ledger (h : runnerOK sh a) :
    sh.inits ≤ 1 ∧ sh.seedDrops + sh.seedLeaks ≤ 1 := by
  rcases h with ⟨_, _, _, _, hi, l1, l2⟩ | ⟨_, _, _, _, _, _, hi, l1, l2⟩ | ⟨_, _, _, _, _, _, hi, l1, l2⟩ |
      ⟨_, _, _, _, _, _, hi, l1, l2⟩ | ⟨_, _, _, _, hi, l1, l2⟩ | ⟨_, _, _, _, _, _, hi, l1, l2⟩ |
      ⟨_, _, _, _, hi, l1, l2⟩ <;> rw [hi, l1, l2] <;> decide

/-- at most one initialiser succeeded; the seed was dropped or forgotten at most once -/
theorem Inv.ledger (h : Inv ⟨sh, ths⟩) :
    sh.inits ≤ 1 ∧ sh.seedDrops + sh.seedLeaks ≤ 1 := by
  rcases h.phase with ⟨_, _, hi, ⟨l1, l2⟩, _⟩ | ⟨r, a, _, _, hok, _⟩ | ⟨_, _, hi, _, hacct⟩
  · rw [hi, l1, l2]; decide
  · exact runnerOK_ledger hok
  · refine ⟨Nat.le_of_eq hi, ?_⟩
    rcases hacct with ⟨_, hl⟩ | ⟨_, _, _, _, _, l1, l2⟩
    · exact Nat.le_of_eq hl
    · rw [l1, l2]; decide

end AmVerif.Model.Cell
