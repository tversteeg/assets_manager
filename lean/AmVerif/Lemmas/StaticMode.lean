import AmVerif.Lemmas.Channel
/-!
# Reloader steps that run a pass; the static mode (`enhance_hot_reloading`)

In static mode the cache follows the source "by itself": every batch of events is applied at once by
the reloader thread (`handle_events` → `update_if_static`), the switch itself (`use_static_ref`)
applies what was pending, and `hot_reload()` is a no-op (it only lets the reloader take the
registrations).

* `runUpdate_converges` — `reloadAll_converges` + `pinv_init` for `run_update`, with the bookkeeping of a pass
  (`reloadAll_keeps_mode`, `runUpdate_inverse`: `Lemmas/Reload.lean`, `Lemmas/Entry.lean`); `PassOK` — its hypotheses
  on the pass, as one structure.
* `hstep_pass_converges` — every reloader step that runs a pass (`HOp.runsPass`: a batch of events in
  static mode, `hot_reload()` and the switch in local mode), from a state whose drain is settled
  (registrations of loads still in the channel); the entry points as "drain, (take events),
  `run_update`, drain": `Lemmas/Entry.lean`.
-/
namespace AmVerif.Model
open AmVerif.Gen AmVerif.Lemmas.TopoGraph AmVerif.Lemmas.Topo

/-! ## `run_update` converges (the pass theorem with its bookkeeping) -/

/-- `reloadAll_converges` from `pinv_init`, for `run_update`: the statement of `C05_pass_converges_partial`
(with `Inverse`, the half of the index exactness the sort needs) together with what the pass does to the
reloader's other fields. -/
theorem runUpdate_converges {env env' : Env} (hS : env.Steady) (hS' : env'.Steady) (hL : SameLoaders env env')
    {fuel : Nat} {s : St} {r : RSt} {changed : List Dep} {rank : Dep → Nat}
    (hset : Settled env fuel s r.graph) (hI : r.graph.Inverse)
    (hrank : ∀ a rs b, r.graph.rdepsOf a = some rs → b ∈ rs → rank b < rank a)
    (hlive : r.dead = false) (hfuel : r.graph.length + 1 ≤ fuel)
    (hfile : ∀ id ext, Dep.file id ext ∉ changed → env'.read 0 id ext = env.read 0 id ext)
    (hdir : ∀ id, Dep.dir id ∉ changed → env'.readDir 0 id = env.readDir 0 id)
    (hnotified : ∀ d, d ∈ changed → r.graph.get d ≠ none → d ∈ r.toReload)
    (hmiss : NoMissInPass env' fuel (updateSteps env' fuel s r))
    (hret : ReloadsReturn env' fuel (updateSteps env' fuel s r))
    (hrewire : NoRewireOntoPending env' fuel (updateSteps env' fuel s r)) :
    Settled env' fuel (runUpdate env' fuel s r).1 (runUpdate env' fuel s r).2.graph ∧
    (runUpdate env' fuel s r).2.dead = false ∧ (runUpdate env' fuel s r).1.out = s.out ∧
    (runUpdate env' fuel s r).2.toReload = [] ∧ (runUpdate env' fuel s r).2.static_ = r.static_ := by
  obtain ⟨keys, hk⟩ := topo_terminates r.graph fuel hfuel r.toReload
  rw [updateSteps_eq hk] at hmiss hret hrewire
  rw [runUpdate_eq hk]
  obtain ⟨h1, h2, h3⟩ := reloadAll_converges hS' keys s { r with toReload := [] }
    (pinv_init hS hS' hL hset hI hk hfile hdir hnotified) hlive (topo_nodup hk)
    (depsFirst_of_topo hI hrank hk) hmiss hret hrewire
  obtain ⟨m1, m2⟩ := reloadAll_keeps_mode env' fuel keys s { r with toReload := [] }
  exact ⟨h1, h2, h3, m1, m2⟩

/-! ## The hypotheses on one pass of a history -/

/-- the hypotheses on ONE pass of a history (the pass `run_update` performs from `y`): acyclic
look-ups, enough fuel for the sort, and the three named hypotheses of `C05_pass_converges_partial` -/
structure PassOK (env : Env) (fuel : Nat) (y : St × RSt) : Prop where
  acyclic : ∃ rank : Dep → Nat, ∀ a rs b, y.2.graph.rdepsOf a = some rs → b ∈ rs → rank b < rank a
  enough : y.2.graph.length + 1 ≤ fuel
  noMiss : NoMissInPass env fuel (updateSteps env fuel y.1 y.2)
  returns : ReloadsReturn env fuel (updateSteps env fuel y.1 y.2)
  noRewire : NoRewireOntoPending env fuel (updateSteps env fuel y.1 y.2)

/-- `PassOK` from the executable checks -/
theorem PassOK.of_checks {env : Env} {fuel : Nat} {y : St × RSt} (rank : Dep → Nat)
    (hrank : ∀ x ∈ y.2.graph, ∀ b ∈ x.2.rdeps, rank b < rank x.1)
    (hfuel : y.2.graph.length + 1 ≤ fuel)
    (h1 : stepsHitB env fuel (updateSteps env fuel y.1 y.2) = true)
    (h2 : stepsReturnB env fuel (updateSteps env fuel y.1 y.2) = true)
    (h3 : noRewireB env fuel (updateSteps env fuel y.1 y.2) = true) : PassOK env fuel y :=
  ⟨⟨rank, rank_of_entries hrank⟩, hfuel, noMiss_of_check h1, reloadsReturn_of_check h2, noRewire_of_check h3⟩

/-! ## A reloader step that runs a pass -/

/-- **A reloader step that runs a pass converges** — `hot_reload()` or the switch in local mode, a batch
of events in static mode (`HOp.runsPass`). `x`: a state whose drain is settled under the source `env`
before the edits (`Pending.drain`, `PendingC.drain`: registrations of earlier loads may still be in the
channel, the step takes them first); `env'` differs from `env` only on `changed`, and every changed entry
the graph knows is in the set of changed entries the step hands to `run_update` (`prePass`); that pass is
`PassOK`. When the step returns everything registered and cached is settled under `env'`, the reloader is
alive, the channel is drained (the pass registered nothing behind the sort's back), nothing is pending. -/
theorem hstep_pass_converges {env env' : Env} (hS : env.Steady) (hS' : env'.Steady) (hL : SameLoaders env env')
    {fuel : Nat} {x : St × RSt} {changed : List Dep} (op : HOp)
    (hset : Settled env fuel (processMsgs x.1 x.2).1 (processMsgs x.1 x.2).2.graph) (hI : x.2.graph.Inverse)
    (hlive : x.2.dead = false) (hrp : op.runsPass x.2 = true)
    (hfile : ∀ id ext, Dep.file id ext ∉ changed → env'.read 0 id ext = env.read 0 id ext)
    (hdir : ∀ id, Dep.dir id ∉ changed → env'.readDir 0 id = env.readDir 0 id)
    (hnotified : ∀ d, d ∈ changed → (prePass op x).2.graph.get d ≠ none → d ∈ (prePass op x).2.toReload)
    (hok : PassOK env' fuel (prePass op x)) :
    Settled env' fuel (hstep fuel (env', op) x).1 (hstep fuel (env', op) x).2.graph ∧
    (hstep fuel (env', op) x).2.dead = false ∧ (hstep fuel (env', op) x).1.out = [] ∧
    (hstep fuel (env', op) x).2.toReload = [] ∧
    (hstep fuel (env', op) x).2.static_ = (prePass op x).2.static_ ∧
    (hstep fuel (env', op) x).2.graph.Inverse := by
  have hop : op.isReloader = true := by
    cases op with
    | api o => cases hrp
    | _ => rfl
  obtain ⟨p1, p2, p3⟩ := prePass_facts op hop x
  have hI1 : (prePass op x).2.graph.Inverse := by rw [p2]; exact processMsgs_inverse x.1 x.2 hI
  obtain ⟨⟨rank, hrank⟩, hfuel, hmiss, hret, hrewire⟩ := hok
  obtain ⟨c1, c2, c3, c4, c5⟩ := runUpdate_converges hS hS' hL (by rw [p1, p2]; exact hset) hI1 hrank (p3.trans hlive)
    hfuel hfile hdir hnotified hmiss hret hrewire
  have hout : (runUpdate env' fuel (prePass op x).1 (prePass op x).2).1.out = [] := c3.trans (by rw [p1]; rfl)
  have e : hstep fuel (env', op) x = runUpdate env' fuel (prePass op x).1 (prePass op x).2 :=
    (hstep_pass env' fuel op x hlive hrp).trans (processMsgs_nil _ _ hout)
  rw [e]
  exact ⟨c1, c2, hout, c4, c5, runUpdate_inverse env' fuel _ _ hI1⟩

end AmVerif.Model
