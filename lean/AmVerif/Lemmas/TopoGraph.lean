import AmVerif.Lemmas.Graph
import AmVerif.Lemmas.Topo
/-!
# The reload order on the concrete dependency graph (`Graph`, `topo`)

`topo g fuel changed` lists the asset keys of `sortFrom g.rdepsOf fuel changed`: `topo_eq` is the inversion
with which every lift starts, `mem_assetKeys` / `assetKeys_split` carry membership and splits across
`assetKeys`.

* Lifted from the theorem of `Lemmas/Topo.lean` of the same name: `topo_nodup`, `topo_only_reachable`
  (`sortFrom_sound`), `topo_closed`, `topo_complete`, `topo_order_scc`, `topo_terminates`, `topo_fuel_mono`.
* Derived here from those: `topo_changed` (`topo_complete`), `topo_order` (`topo_order_scc`; a rank leaves
  no cycle: `not_reach_of_rank`), `topo_order_idx`, `topo_order_deps` (the rank given on the forward edges).
-/
namespace AmVerif.Lemmas.TopoGraph
open AmVerif.Model AmVerif.Lemmas.Topo

/-! ## `assetKeys` -/

/-- the key of an asset entry -/
def keyOf : Dep → Option Key
  | .asset k => some k
  | .file _ _ => none
  | .dir _ => none

theorem keyOf_eq_some {d : Dep} {k : Key} : keyOf d = some k ↔ d = .asset k := by
  cases d <;> simp [keyOf]

theorem assetKeys_eq (l : List Dep) : assetKeys l = l.filterMap keyOf := by
  induction l with
  | nil => rfl
  | cons d ds ih => cases d <;> simp [assetKeys, keyOf, List.filterMap_cons, ih]

theorem mem_assetKeys {k : Key} {l : List Dep} : k ∈ assetKeys l ↔ Dep.asset k ∈ l := by
  simp only [assetKeys_eq, List.mem_filterMap, keyOf_eq_some, exists_eq_right]

theorem assetKeys_nodup {l : List Dep} (h : l.Nodup) : (assetKeys l).Nodup := by
  rw [assetKeys_eq]
  exact List.Pairwise.filterMap _
    (fun a a' hne b hb b' hb' e => hne (by rw [keyOf_eq_some.mp hb, keyOf_eq_some.mp hb', e])) h

theorem assetKeys_split {l : List Dep} {pre : List Key} {k : Key} {post : List Key}
    (h : assetKeys l = pre ++ k :: post) :
    ∃ pre' post', l = pre' ++ Dep.asset k :: post' ∧ assetKeys pre' = pre ∧ assetKeys post' = post := by
  rw [assetKeys_eq, List.filterMap_eq_append_iff] at h
  obtain ⟨l1, l2, rfl, h1, h2⟩ := h
  obtain ⟨m1, d, m2, rfl, hm1, hd, hm2⟩ := List.filterMap_eq_cons_iff.mp h2
  refine ⟨l1 ++ m1, m2, by rw [keyOf_eq_some.mp hd, List.append_assoc], ?_, by rw [assetKeys_eq, hm2]⟩
  rw [assetKeys_eq, List.filterMap_append, h1, List.filterMap_eq_nil_iff.mpr hm1, List.append_nil]

example : assetKeys [fA, .asset k1, .dir "d", .asset k0] = [k1, k0] := rfl
example : k1 ∈ assetKeys [fA, .asset k1] := mem_assetKeys.mpr (by simp)
example : (assetKeys [fA, .asset k1, .asset k0]).Nodup := assetKeys_nodup (by decide)
example : ∃ pre' post', [fA, .asset k1, fB, .asset k0] = pre' ++ Dep.asset k0 :: post' ∧ assetKeys pre' = [k1] ∧
    assetKeys post' = [] := assetKeys_split (l := [fA, .asset k1, fB, .asset k0]) (pre := [k1]) (post := []) rfl

/-! ## `Graph.rdepsOf` -/

theorem rdepsOf_eq_some {g : Graph} {a : Dep} {rs : List Dep} :
    g.rdepsOf a = some rs ↔ ∃ n, g.get a = some n ∧ n.rdeps = rs := by
  unfold Graph.rdepsOf; cases g.get a <;> simp

theorem rdepsOf_ne_none {g : Graph} {a : Dep} : g.rdepsOf a ≠ none ↔ g.get a ≠ none := by
  unfold Graph.rdepsOf; cases g.get a <;> simp

/-- under `InverseRev` every reverse dependency is a node of the graph -/
theorem rdeps_in_graph {g : Graph} (hR : g.InverseRev) {a b : Dep} {rs : List Dep}
    (h : g.rdepsOf a = some rs) (hb : b ∈ rs) : g.get b ≠ none := by
  have ⟨m, hm, hrs⟩ := rdepsOf_eq_some.mp h
  have ⟨n, hn, _⟩ := hR a b ⟨m, hm, hrs ▸ hb⟩
  simp [hn]

/-- a rank check on the entries of the graph gives the rank hypothesis on `rdepsOf` -/
theorem rank_of_entries {g : Graph} {rank : Dep → Nat}
    (h : ∀ x ∈ g, ∀ b ∈ x.2.rdeps, rank b < rank x.1) :
    ∀ a rs b, g.rdepsOf a = some rs → b ∈ rs → rank b < rank a := by
  intro a rs b hrs hb
  have ⟨n, hn, hr⟩ := rdepsOf_eq_some.mp hrs
  exact h (a, n) (get_some_mem hn) b (hr ▸ hb)

/-- the same check for the forward edges: the rank hypothesis of `topo_order_deps` -/
theorem deps_rank_of_entries {g : Graph} {rank : Dep → Nat}
    (h : ∀ x ∈ g, ∀ d ∈ x.2.deps, rank d < rank x.1) :
    ∀ a n d, g.get a = some n → d ∈ n.deps → rank d < rank a :=
  fun a n d hn hd => h (a, n) (get_some_mem hn) d hd

/-- under `InverseRev`, a rank that decreases along the forward (`deps`) edges increases along `rdepsOf`:
the hypothesis of `rank_up_reach` -/
theorem rank_up_of_deps_rank {g : Graph} (hR : g.InverseRev) {rank : Dep → Nat}
    (hr : ∀ a n d, g.get a = some n → d ∈ n.deps → rank d < rank a) :
    ∀ a rs b, g.rdepsOf a = some rs → b ∈ rs → rank a < rank b := by
  intro a rs b hrs hb
  have ⟨m, hm, hrs'⟩ := rdepsOf_eq_some.mp hrs
  have ⟨n, hn, hd⟩ := hR a b ⟨m, hm, hrs' ▸ hb⟩
  exact hr b n a hn hd

example : gEx.rdepsOf fB = some [.asset k1] ∧ gEx.rdepsOf (.dir "x") = none := by decide +kernel
example : gEx.get (.asset k1) ≠ none := rdeps_in_graph (g := gEx)
  gEx_inverse.2
  (a := fB) (rs := [.asset k1]) (by decide +kernel) (by simp)

example : ∃ n, gEx.get fB = some n ∧ n.rdeps = [.asset k1] := rdepsOf_eq_some.mp (by decide +kernel)
example : gEx.rdepsOf fB ≠ none := rdepsOf_ne_none.mpr (by decide +kernel)

/-- files and directories first, then `k1`, `k0`, `k2` -/
def exRankD : Dep → Nat
  | .asset k => match k.ty with | 1 => 3 | 0 => 2 | _ => 1
  | _ => 9

theorem gEx_rank : ∀ a rs b, gEx.rdepsOf a = some rs → b ∈ rs → exRankD b < exRankD a :=
  rank_of_entries (by decide +kernel)

/-! ## `topo` -/

section TopoThms
variable {g : Graph} {fuel : Nat} {changed : List Dep} {keys : List Key}

/-- the equation `topo … = some keys` inverted (`topo` is `sortFrom` mapped through `assetKeys`): the sort
returned, and `keys` are the asset keys of its list -/
theorem topo_eq (h : topo g fuel changed = some keys) :
    ∃ st, sortFrom g.rdepsOf fuel changed = some st ∧ keys = assetKeys st.out := by
  obtain ⟨st, hs, e⟩ := Option.map_eq_some_iff.mp h
  exact ⟨st, hs, e.symm⟩

/-- No asset is reloaded twice in one pass. -/
theorem topo_nodup (h : topo g fuel changed = some keys) : keys.Nodup := by
  obtain ⟨st, hs, rfl⟩ := topo_eq h
  exact assetKeys_nodup (sortFrom_nodup hs)

/-- Every reloaded asset is a node of the graph and reachable from a changed
entry along reverse-dependency edges. -/
theorem topo_only_reachable (h : topo g fuel changed = some keys) :
    ∀ k ∈ keys, g.get (.asset k) ≠ none ∧ ∃ c ∈ changed, Reach g.rdepsOf c (.asset k) := by
  obtain ⟨st, hs, rfl⟩ := topo_eq h
  intro k hk
  have ⟨h1, h2⟩ := sortFrom_sound hs _ (mem_assetKeys.mp hk)
  exact ⟨rdepsOf_ne_none.mp h1, h2⟩

/-- The reloaded set is closed under reverse dependencies (assets in the graph). -/
theorem topo_closed (h : topo g fuel changed = some keys) :
    ∀ k ∈ keys, ∀ rs, g.rdepsOf (.asset k) = some rs → ∀ k', Dep.asset k' ∈ rs →
      g.get (.asset k') ≠ none → k' ∈ keys := by
  obtain ⟨st, hs, rfl⟩ := topo_eq h
  intro k hk rs hrs k' hk' hg
  exact mem_assetKeys.mpr (sortFrom_closed hs _ (mem_assetKeys.mp hk) rs hrs _ hk' (rdepsOf_ne_none.mpr hg))

/-- Every asset of the graph reachable from a changed entry is reloaded. -/
theorem topo_complete (h : topo g fuel changed = some keys) :
    ∀ c ∈ changed, ∀ k, Reach g.rdepsOf c (.asset k) → g.get (.asset k) ≠ none → k ∈ keys := by
  obtain ⟨st, hs, rfl⟩ := topo_eq h
  intro c hc k hr hg
  exact mem_assetKeys.mpr (sortFrom_complete hs c hc _ hr (rdepsOf_ne_none.mpr hg))

/-- A changed asset of the graph is reloaded; so is every asset that depends on a
changed entry. -/
theorem topo_changed (h : topo g fuel changed = some keys) :
    (∀ k, Dep.asset k ∈ changed → g.get (.asset k) ≠ none → k ∈ keys) ∧
    (∀ c ∈ changed, ∀ rs, g.rdepsOf c = some rs → ∀ k, Dep.asset k ∈ rs → g.get (.asset k) ≠ none → k ∈ keys) :=
  ⟨fun k hk hg => topo_complete h _ hk k (Reach.refl _) hg,
   fun c hc _ hrs k hk hg => topo_complete h c hc k (Reach.edge hrs hk) hg⟩

/-- On every graph: an asset is reloaded before each asset that depends on it,
except for those on a dependency cycle with it. -/
theorem topo_order_scc (h : topo g fuel changed = some keys) :
    ∀ pre k post, keys = pre ++ k :: post → ∀ rs, g.rdepsOf (.asset k) = some rs → ∀ k', Dep.asset k' ∈ rs →
      g.get (.asset k') ≠ none → k' ∈ post ∨ Reach g.rdepsOf (.asset k') (.asset k) := by
  obtain ⟨st, hs, rfl⟩ := topo_eq h
  intro pre k post hk rs hrs k' hk' hg
  obtain ⟨pre', post', ho, _, rfl⟩ := assetKeys_split hk
  rcases sortFrom_order_scc hs pre' _ post' ho rs hrs _ hk' (rdepsOf_ne_none.mpr hg) with h1 | h1
  · exact Or.inl (mem_assetKeys.mpr h1)
  · exact Or.inr h1

/-- With a rank that strictly decreases along reverse-dependency edges (acyclic
graph): in `keys = pre ++ k :: post` every asset that depends on `k` is in `post` — an asset is
reloaded before its dependents. -/
theorem topo_order {rank : Dep → Nat} (hr : ∀ a rs b, g.rdepsOf a = some rs → b ∈ rs → rank b < rank a)
    (h : topo g fuel changed = some keys) :
    ∀ pre k post, keys = pre ++ k :: post → ∀ rs, g.rdepsOf (.asset k) = some rs → ∀ k', Dep.asset k' ∈ rs →
      g.get (.asset k') ≠ none → k' ∈ post :=
  fun pre k post hk rs hrs k' hk' hg =>
    (topo_order_scc h pre k post hk rs hrs k' hk' hg).resolve_right (not_reach_of_rank hr _ rs _ hrs hk')

/-- Index formulation of `topo_order`: a reloaded asset has a smaller index than
each asset of the graph that depends on it (which is reloaded too). -/
theorem topo_order_idx {rank : Dep → Nat} (hr : ∀ a rs b, g.rdepsOf a = some rs → b ∈ rs → rank b < rank a)
    (h : topo g fuel changed = some keys) :
    ∀ k ∈ keys, ∀ rs, g.rdepsOf (.asset k) = some rs → ∀ k', Dep.asset k' ∈ rs → g.get (.asset k') ≠ none →
      k' ∈ keys ∧ keys.idxOf k < keys.idxOf k' := by
  intro k hk rs hrs k' hk' hg
  obtain ⟨pre, post, hsplit⟩ := List.append_of_mem hk
  exact idxOf_lt_of_split hsplit (topo_nodup h) (topo_order hr h pre k post hsplit rs hrs k' hk' hg)

/-- The same from the forward edges: if the graph satisfies `InverseRev` and a
rank strictly decreases from every node to its dependencies, then in `keys = pre ++ k :: post` every
reverse dependency of `k` is in `post` (it is a node of the graph by `InverseRev`). -/
theorem topo_order_deps (hR : g.InverseRev) {rank : Dep → Nat}
    (hr : ∀ a n d, g.get a = some n → d ∈ n.deps → rank d < rank a)
    (h : topo g fuel changed = some keys) :
    ∀ pre k post, keys = pre ++ k :: post → ∀ rs, g.rdepsOf (.asset k) = some rs → ∀ k', Dep.asset k' ∈ rs →
      k' ∈ post := by
  intro pre k post hk rs hrs k' hk'
  -- `topo_order` does not apply: seen from `rdepsOf` this rank increases, and a rank in `Nat` cannot be turned round
  refine (topo_order_scc h pre k post hk rs hrs k' hk' (rdeps_in_graph hR hrs hk')).resolve_right fun hre => ?_
  have := rank_up_reach (rank_up_of_deps_rank hR hr) hre
  have := rank_up_of_deps_rank hR hr _ rs _ hrs hk'
  omega

/-- The sort returns on every graph (cyclic or not) with fuel `#entries + 1`. -/
theorem topo_terminates (g : Graph) (fuel : Nat) (hfuel : g.length + 1 ≤ fuel) (changed : List Dep) :
    ∃ keys, topo g fuel changed = some keys := by
  have ⟨st, hs⟩ := sortFrom_terminates (rdeps := g.rdepsOf) (g.map (·.1))
    (fun a rs h => by
      have ⟨n, hn, _⟩ := rdepsOf_eq_some.mp h
      exact List.mem_map.mpr ⟨(a, n), get_some_mem hn, rfl⟩)
    fuel (by simpa using hfuel) changed
  exact ⟨assetKeys st.out, by rw [topo, hs, Option.map_some]⟩

theorem topo_fuel_mono {fuel' : Nat} (h : topo g fuel changed = some keys) (hle : fuel ≤ fuel') :
    topo g fuel' changed = some keys := by
  obtain ⟨st, hs, rfl⟩ := topo_eq h
  rw [topo, sortFrom_fuel_mono hs hle, Option.map_some]

end TopoThms

/-! ### examples (non-vacuity) -/

/-- the test vector: file `b` changed. `k1` reads it, `k0` reads `k1`, `k2` reads `k0`: reloaded in this order -/
theorem gEx_topo : topo gEx 8 [fB] = some [k1, k0, k2] := by decide +kernel
theorem gEx_rdeps_fB : gEx.rdepsOf fB = some [.asset k1] := by decide +kernel
theorem gEx_rdeps_k0 : gEx.rdepsOf (.asset k0) = some [.asset k2] := by decide +kernel
theorem gEx_get_k2 : gEx.get (.asset k2) ≠ none := by decide +kernel

example : ∃ st, sortFrom gEx.rdepsOf 8 [fB] = some st ∧ [k1, k0, k2] = assetKeys st.out := topo_eq gEx_topo
example : topo gEx 8 [fB] = some [k1, k0, k2] := gEx_topo
-- both files and the directory changed, in an unfavourable order: same order, nothing twice
example : topo gEx 8 [.dir "d", fA, fB, .dir "zz"] = some [k1, k0, k2] := by decide +kernel
example : [k1, k0, k2].Nodup := topo_nodup gEx_topo
example : gEx.get (.asset k0) ≠ none ∧ ∃ c ∈ [fB], Reach gEx.rdepsOf c (.asset k0) :=
  topo_only_reachable gEx_topo k0 (by decide)
example : k2 ∈ [k1, k0, k2] :=
  topo_closed gEx_topo k0 (by decide) _ gEx_rdeps_k0 k2 (by simp) gEx_get_k2
example : k0 ∈ [k1, k0, k2] :=
  topo_complete gEx_topo fB (by simp) k0
    (Reach.trans (b := .asset k1) (Reach.edge gEx_rdeps_fB (by simp)) (Reach.edge (rs := [.asset k0]) (by decide +kernel) (by simp)))
    (by decide +kernel)
example : k1 ∈ [k1, k0, k2] :=
  (topo_changed gEx_topo).2 fB (by simp) _ gEx_rdeps_fB k1 (by simp) (by decide +kernel)
example : k2 ∈ [k2] :=
  topo_order gEx_rank gEx_topo [k1] k0 [k2] rfl _ gEx_rdeps_k0 k2 (by simp) gEx_get_k2
example : k2 ∈ [k2] ∨ Reach gEx.rdepsOf (.asset k2) (.asset k0) :=
  topo_order_scc gEx_topo [k1] k0 [k2] rfl _ gEx_rdeps_k0 k2 (by simp) gEx_get_k2

example : k2 ∈ [k1, k0, k2] ∧ [k1, k0, k2].idxOf k0 < [k1, k0, k2].idxOf k2 :=
  topo_order_idx gEx_rank gEx_topo k0 (by decide) _ gEx_rdeps_k0 k2 (by simp) gEx_get_k2

/-- the natural rank: an asset is above everything it reads -/
def exRankF : Dep → Nat
  | .asset k => match k.ty with | 1 => 1 | 0 => 2 | _ => 3
  | _ => 0

example : k2 ∈ [k2] :=
  topo_order_deps (g := gEx) (rank := exRankF)
    gEx_inverse.2
    (deps_rank_of_entries (by decide +kernel))
    gEx_topo [k1] k0 [k2] rfl _ gEx_rdeps_k0 k2 (by simp)
example : ∀ a rs b, gEx.rdepsOf a = some rs → b ∈ rs → exRankF a < exRankF b :=
  rank_up_of_deps_rank
    gEx_inverse.2
    (deps_rank_of_entries (by decide +kernel))
example : ∃ keys, topo gEx 7 [fB, fA] = some keys := topo_terminates gEx 7 (by decide +kernel) _
example : topo gEx 4 [fB] = topo gEx 40 [fB] ∧ topo gEx 3 [fB] = none := by decide +kernel
example : topo gEx 40 [fB] = some [k1, k0, k2] := topo_fuel_mono gEx_topo (by decide)

/-- a cyclic graph (two assets reading each other, as the repaired code allows): the sort returns,
lists both once, and `topo_order_scc` (not `topo_order`) describes the order -/
def gCyc : Graph := (Graph.insertAsset [] (.asset k0) [fA, .asset k1]).insertAsset (.asset k1) [.asset k0]

example : topo gCyc 4 [fA] = some [k0, k1] := by decide +kernel
example : Reach gCyc.rdepsOf (.asset k0) (.asset k1) ∧ Reach gCyc.rdepsOf (.asset k1) (.asset k0) :=
  ⟨Reach.edge (rs := [.asset k1]) (by decide +kernel) (by simp), Reach.edge (rs := [.asset k0]) (by decide +kernel) (by simp)⟩

end AmVerif.Lemmas.TopoGraph
