import AmVerif.Lemmas.CellStep
/-!
# What the invariant says about failure and progress

Only the thread inside the closure reaches the user's initialiser; after a failure a later attempt
succeeds; the only blocking point is the once, and its holder can always move.
-/
namespace AmVerif.Model.Cell
open AmVerif.Gen.Cell

/-- under the invariant the statement `f(&mut state.uninit)?` is only ever reached by the thread
inside the closure, with no initialiser having succeeded and nothing dropped -/
theorem callF_runner {sh : Sh} {ths : Nat → Th} {t : Nat} {a : Act} (h : Inv ⟨sh, ths⟩)
    (hact : (ths t).act = some a) (htok : (progOf a.path)[a.pc]? = some .callF) :
    sh.once = .running t ∧ sh.inits = 0 ∧ ledger0 sh := by
  have hnq : ¬ quietPost (ths t) := fun hq => by
    obtain ⟨tok, h2, z⟩ := quietPost_tok hq hact
    rw [htok] at h2; cases h2; exact z rfl
  rcases h.phase with ⟨_, _, _, _, hq⟩ | ⟨r, ar, h1, h2, h3, hq⟩ | ⟨_, _, _, hq, _⟩
  · exact absurd (quiet_quietPost (hq t)) hnq
  · by_cases hrt : t = r
    · subst hrt
      rw [hact] at h2; cases h2
      refine ⟨h1, ?_⟩
      rcases h3 with ⟨_, _, _, _, hi, hl⟩ | ⟨hp, hpc | hpc, _⟩ | ⟨hp, hpc, _⟩ | ⟨hp, hpc, _⟩ |
        ⟨_, _, _, _, hi, hl⟩ | ⟨hp, hpc, _⟩ | ⟨hp, hpc, _⟩
      · exact ⟨hi, hl⟩
      · rw [hp, hpc] at htok; cases htok
      · rw [hp, hpc] at htok; cases htok
      · rw [hp, hpc] at htok; cases htok
      · rw [hp, hpc] at htok; cases htok
      · exact ⟨hi, hl⟩
      · rw [hp, hpc] at htok; cases htok
      · rw [hp, hpc] at htok; cases htok
    · exact absurd (quiet_quietPost (hq t hrt)) hnq
  · exact absurd (hq t) hnq

/-- from an empty once with the seed in the union, a thread whose next call is a succeeding
`get_or_try_init` initialises the cell when run alone (other threads may be anywhere) -/
theorem retry_succeeds (sh : Sh) (ths : Nat → Th) (t c d : Nat) (rest : List Call)
    (h1 : sh.once = .empty) (h2 : sh.data = .seed c) (ha : (ths t).act = none)
    (hc : (ths t).calls = .init ⟨.ok, d⟩ :: rest) :
    ∃ n, (run ⟨sh, ths⟩ (List.replicate n t)).sh.once = .done ∧
      (run ⟨sh, ths⟩ (List.replicate n t)).sh.data = .value (c + d) ∧
      ((run ⟨sh, ths⟩ (List.replicate n t)).ths t).results =
        (if sh.kind = .bomb then Res.panicDrop else .ref (c + d)) :: (ths t).results := by
  obtain ⟨kind, once, data, inits, sd, sl, ub⟩ := sh
  cases h1; cases h2
  -- the run is executed symbolically, program point by program point: one step starts the call, then one per
  -- token of `initNoDrop` (7) or `initDefault` (11); a bomb's destructor panics at `dropEscaped`, the token before `ret`
  refine ⟨match kind with | .plain => 8 | .tracked => 12 | .bomb => 11, ?_⟩
  cases kind <;>
    simp only [List.replicate, run, Sys.step, stepTh, ha, hc, upd, if_true, dispatch, Kind.needsDrop, progOf,
      initNoDrop, initDefault, interp, goto, finish, uncheckedArm, Data.read, List.getElem?_cons_zero,
      List.getElem?_cons_succ, Nat.reduceAdd, Nat.zero_add, reduceCtorEq, if_false, and_self]

theorem no_deadlock {sh : Sh} {ths : Nat → Th} (h : Inv ⟨sh, ths⟩) (u : Nat)
    (hw : (ths u).act ≠ none ∨ (ths u).calls ≠ []) : ∃ t, stepTh sh t (ths t) ≠ none := by
  by_cases hrun : ∃ r, sh.once = .running r
  · -- the thread inside the closure stands at a token that never blocks
    obtain ⟨r, hr⟩ := hrun
    obtain ⟨a, ha, hok, _⟩ := running_phase h hr
    obtain ⟨tok, htok, z⟩ := runnerOK_tok hok
    refine ⟨r, fun hn => ?_⟩
    rw [stepTh_act_tok ha htok] at hn
    rw [(interp_none hn).1] at z
    cases z
  · refine ⟨u, fun hn => ?_⟩
    cases hact : (ths u).act with
    | some a =>
      have hq : quietPost (ths u) := by
        rcases h.phase with ⟨_, _, _, _, hq⟩ | ⟨r, _, h1, _⟩ | ⟨_, _, _, hq, _⟩
        · exact quiet_quietPost (hq u)
        · exact absurd ⟨r, h1⟩ hrun
        · exact hq u
      obtain ⟨tok, htok, _⟩ := quietPost_tok hq hact
      rw [stepTh_act_tok hact htok] at hn
      exact hrun (interp_none hn).2
    | none =>
      rcases hw with hw | hw
      · exact hw hact
      · rw [stepTh_idle hact] at hn
        cases hc : (ths u).calls with
        | nil => exact hw hc
        | cons c rest =>
          rw [hc] at hn
          cases c with
          | init o => cases hn
          | get => rw [getStep_eq] at hn; cases hn

end AmVerif.Model.Cell
