import AmVerif.Lemmas.Cell
import AmVerif.Lemmas.CellInterp
/-! # Every step of every thread preserves `Inv` -/
namespace AmVerif.Model.Cell
open AmVerif.Gen.Cell

variable {sh sh' : Sh} {ths : Nat → Th} {t : Nat} {th th' : Th} {a a' : Act}

/-! ## What holds of a thread's call in flight (`rfl` after `goto`); after `finish` there is none -/

theorem of_act {P : Act → Prop} (ha : th.act = some a) (h : P a) : ∀ b, th.act = some b → P b :=
  fun b hb => by rw [ha] at hb; cases hb; exact h

theorem of_no_act {P : Act → Prop} (ha : th.act = none) : ∀ b, th.act = some b → P b :=
  fun b hb => by rw [ha] at hb; cases hb

/-! ## Steps that leave the shared state alone -/

/-- a thread that is neither inside the closure nor holding the escaped seed moves, without touching
the shared state, to another such state. `Phase` asks `quiet` of it while the once is empty or running and
only `quietPost` once it is initialised, hence `hqq` beside `hq`. -/
theorem inv_same_sh_noslot (h : Inv ⟨sh, ths⟩) (hq0 : quietPost (ths t))
    (hs0 : ∀ b, (ths t).act = some b → b.slot = none)
    (hq : quietPost th') (hslot : ∀ b, th'.act = some b → b.slot = none)
    (hqq : sh.once ≠ .done → quiet th')
    (hr : ∀ r, r ∈ th'.results → resOK sh r) : Inv ⟨sh, upd ths t th'⟩ := by
  refine ⟨h.nub, ?_, res_upd h.res hr⟩
  rcases h.phase with ⟨h1, h2, h3, h4, hq'⟩ | ⟨r, a, h1, h2, h3, hq'⟩ | ⟨h1, h2, h3, hq', hacct⟩
  · exact phase_empty_upd h1 h2 h3 h4 (fun u _ => hq' u) (hqq (by rw [h1]; nofun))
  · have hne : r ≠ t := by
      intro e; subst e; exact runner_not_quietPost h2 h3 hq0
    exact phase_run_other hne h1 h2 h3 (hqq (by rw [h1]; nofun)) hq'
  · refine phase_done_upd h1 h2 h3 (fun u _ => hq' u) hq ?_
    rcases hacct with ⟨hn, hl⟩ | ⟨hh, a, ha1, ha2, ha3, hl⟩
    · exact acct_none (fun u _ a ha => hn u a ha) hslot hl
    · have hne : hh ≠ t := by
        intro e; subst e; exact ha2 (hs0 a ha1)
      exact acct_other hne ha1 ha2 ha3 hslot hl

/-- a thread that is not in a call moves to a quiet state without touching the shared state -/
theorem inv_same_sh_quiet (h : Inv ⟨sh, ths⟩) (hact : (ths t).act = none) (hq : quiet th')
    (hr : ∀ r, r ∈ th'.results → resOK sh r) : Inv ⟨sh, upd ths t th'⟩ :=
  inv_same_sh_noslot h (of_no_act hact) (of_no_act hact)
    (quiet_quietPost hq) (fun b hb => (hq b hb).2.2.2) (fun _ => hq) hr

theorem preAt_fresh (p : Path) (o : Outcome) : preAt { path := p, pc := 0, out := o } := by
  cases p
  · exact Or.inl ⟨rfl, Or.inl rfl⟩
  · exact Or.inr ⟨rfl, rfl⟩

theorem inv_idle (h : Inv ⟨sh, ths⟩) (hact : (ths t).act = none)
    (hst : stepTh sh t (ths t) = some (sh', th')) : Inv ⟨sh', upd ths t th'⟩ := by
  rw [stepTh_idle hact] at hst
  have hres := h.res t
  cases hc : (ths t).calls with
  | nil => rw [hc] at hst; cases hst
  | cons c rest =>
    rw [hc] at hst
    cases c with
    | init o =>
      cases hst
      exact inv_same_sh_quiet h hact (fun a ha => by cases ha; exact ⟨preAt_fresh _ _, rfl, rfl, rfl⟩) hres
    | get =>
      -- under the invariant `get` answers `None`, or the stored value once the cell is initialised
      obtain ⟨r, hg1, hg2⟩ : ∃ r, getStep sh = some (sh, r) ∧ resOK sh r := by
        rw [getStep_eq]
        rcases h.phase with ⟨h1, _⟩ | ⟨r, a, h1, _⟩ | ⟨h1, ⟨v, h2⟩, _⟩
        · rw [h1]; exact ⟨.none, rfl, trivial⟩
        · rw [h1]; exact ⟨.none, rfl, trivial⟩
        · rw [h1, h2]; exact ⟨.ref v, rfl, h1, h2⟩
      rw [hg1] at hst
      cases hst
      exact inv_same_sh_quiet h hact (of_no_act hact) (List.forall_mem_cons.2 ⟨hg2, hres⟩)

/-! ## Steps of a thread that has not reached the once yet -/

theorem exitIdx_dflt : exitIdx (progOf .dflt) = 9 := by decide
theorem exitIdx_noDrop : exitIdx (progOf .noDrop) = 6 := by decide

/-- while the once is not initialised nobody holds a reference / saw the destructor panic, so
results survive any change of the shared state that keeps the seed kind -/
theorem res_not_done (h : Inv ⟨sh, ths⟩) (hnd : sh.once ≠ .done) {once : Once} {data : Data}
    {inits seedDrops seedLeaks : Nat} {ub : Bool} (u : Nat) :
    ∀ r, r ∈ (ths u).results → resOK { sh with once, data, inits, seedDrops, seedLeaks, ub } r :=
  fun r hr => resOK_mono (h.res u r hr) rfl (fun hd => absurd hd hnd)

/-- the effect of `onceEnter` (shared by both programs) -/
theorem inv_onceEnter (h : Inv ⟨sh, ths⟩) (hact : (ths t).act = some a) (hpre : preAt a) (hregs : regsNone a)
    (hrun : (∃ c, sh.data = .seed c) → sh.inits = 0 → ledger0 sh →
      runnerOK { sh with once := .running t } { a with pc := a.pc + 1 })
    (hpost : postAt { a with pc := exitIdx (progOf a.path) })
    (hst : interp sh t (ths t) a .onceEnter = some (sh', th')) : Inv ⟨sh', upd ths t th'⟩ := by
  have hq0 := quiet_quietPost (of_act hact ⟨hpre, hregs⟩)
  have hs0 := of_act (P := (·.slot = none)) hact hregs.2.2
  rcases h.phase with ⟨h1, h2, h3, h4, hq'⟩ | ⟨r, ar, h1, h2, h3, hq'⟩ | ⟨h1, h2, h3, hq', hacct⟩
  · rw [interp_onceEnter_empty h1] at hst
    cases hst
    have hnd : sh.once ≠ .done := by rw [h1]; nofun
    exact ⟨h.nub, phase_run_self (a' := { a with pc := a.pc + 1 }) rfl rfl (hrun h2 h3 h4) (fun u _ => hq' u),
      res_upd (res_not_done h hnd) (res_not_done h hnd t)⟩
  · rw [interp_onceEnter_running h1] at hst; cases hst
  · rw [interp_onceEnter_done h1] at hst
    cases hst
    exact inv_same_sh_noslot h hq0 hs0 (of_act rfl (Or.inr ⟨hpost, hregs.1, hregs.2.1, fun hc => absurd hregs.2.2 hc⟩))
      (of_act rfl hregs.2.2) (fun hne => absurd h1 hne) (h.res t)

theorem inv_pre (h : Inv ⟨sh, ths⟩) (hact : (ths t).act = some a) (hpre : preAt a) (hregs : regsNone a)
    (hst : stepTh sh t (ths t) = some (sh', th')) : Inv ⟨sh', upd ths t th'⟩ := by
  have hq0 := quiet_quietPost (of_act hact ⟨hpre, hregs⟩)
  have hs0 := of_act (P := (·.slot = none)) hact hregs.2.2
  obtain ⟨hv, htmp, hslot⟩ := hregs
  rcases hpre with ⟨hp, hpc | hpc⟩ | ⟨hp, hpc⟩
  · -- dflt 0: slotNone
    obtain ⟨rfl, rfl⟩ := of_stepTh hact (tok := .slotNone) (by rw [hp, hpc]; rfl) hst rfl
    have hq : quiet (goto (ths t) { a with slot := none, pc := a.pc + 1 }) :=
      of_act rfl ⟨Or.inl ⟨hp, Or.inr (by rw [hpc])⟩, hv, htmp, rfl⟩
    exact inv_same_sh_noslot h hq0 hs0 (quiet_quietPost hq) (of_act rfl rfl) (fun _ => hq) (h.res t)
  · -- dflt 1: onceEnter
    rw [stepTh_act_tok hact (tok := .onceEnter) (by rw [hp, hpc]; rfl)] at hst
    refine inv_onceEnter h hact (Or.inl ⟨hp, Or.inr hpc⟩) ⟨hv, htmp, hslot⟩ (fun h2 h3 h4 => ?_) ?_ hst
    · exact Or.inl ⟨hp, Or.inl (by rw [hpc]), ⟨hv, htmp, hslot⟩, h2, h3, h4⟩
    · rw [hp, exitIdx_dflt]; exact Or.inl ⟨rfl, Or.inr (Or.inl rfl)⟩
  · -- noDrop 0: onceEnter
    rw [stepTh_act_tok hact (tok := .onceEnter) (by rw [hp, hpc]; rfl)] at hst
    refine inv_onceEnter h hact (Or.inr ⟨hp, hpc⟩) ⟨hv, htmp, hslot⟩ (fun h2 h3 h4 => ?_) ?_ hst
    · exact Or.inr (Or.inr (Or.inr (Or.inr (Or.inl ⟨hp, Or.inl (by rw [hpc]), ⟨hv, htmp, hslot⟩, h2, h3, h4⟩))))
    · rw [hp, exitIdx_noDrop]; exact Or.inr ⟨rfl, Or.inr rfl⟩

/-! ## Steps of a thread past the once (the once is initialised) -/

/-- a thread past the once moves on keeping its `uninit_value` as it is -/
theorem inv_done_keep_slot (h : Inv ⟨sh, ths⟩) (hdone : sh.once = .done) (hact : (ths t).act = some a)
    (hact' : th'.act = some a') (hslot : a'.slot = a.slot) (hq : quietPost th')
    (hr : ∀ r, r ∈ th'.results → resOK sh r) : Inv ⟨sh, upd ths t th'⟩ := by
  obtain ⟨h2, h3, hq', hacct⟩ := done_phase h hdone
  refine ⟨h.nub, phase_done_upd hdone h2 h3 (fun u _ => hq' u) hq ?_, res_upd h.res hr⟩
  have hs' := of_act (P := (·.slot = a.slot)) hact' hslot
  rcases hacct with ⟨hn, hl⟩ | ⟨hh, ah, ha1, ha2, ha3, hl⟩
  · exact acct_none (fun u _ b hb => hn u b hb) (fun b hb => by rw [hs' b hb]; exact hn t a hact) hl
  · by_cases hne : hh = t
    · subst hne
      rw [hact] at ha1; cases ha1
      exact acct_self hact' (by rw [hslot]; exact ha2) ha3 hl
    · exact acct_other hne ha1 ha2 ha3 (fun b hb => by rw [hs' b hb]; exact ha3 t (fun e => hne e.symm) a hact) hl

/-- the thread holding the escaped seed drops it -/
theorem inv_drop_escaped {c : Nat}
    (h : Inv ⟨sh, ths⟩) (hdone : sh.once = .done) (hact : (ths t).act = some a) (hslot : a.slot = some c)
    (hq : quietPost th') (hs' : ∀ b, th'.act = some b → b.slot = none)
    (hr : ∀ r, r ∈ th'.results → r ∈ (ths t).results ∨ (r = .panicDrop ∧ sh.kind = .bomb)) :
    Inv ⟨{ sh with seedDrops := sh.seedDrops + 1 }, upd ths t th'⟩ := by
  have hm : ∀ r, resOK sh r → resOK { sh with seedDrops := sh.seedDrops + 1 } r := fun r hr =>
    resOK_mono hr rfl (fun hd => ⟨hd, rfl, Nat.le_succ _⟩)
  obtain ⟨h2, h3, hq', hacct⟩ := done_phase h hdone
  refine ⟨h.nub, phase_done_upd hdone h2 h3 (fun u _ => hq' u) hq ?_,
    res_upd (fun u r hr' => hm r (h.res u r hr')) (fun r hr' => ?_)⟩
  · rcases hacct with ⟨hn, hl⟩ | ⟨hh, ah, ha1, ha2, ha3, hl⟩
    · have := hn t a hact; rw [hslot] at this; cases this
    · have hne : hh = t := by
        apply Decidable.byContradiction; intro hne
        have := ha3 t (fun e => hne e.symm) a hact; rw [hslot] at this; cases this
      subst hne
      refine acct_none ha3 hs' ?_
      show sh.seedDrops + 1 + sh.seedLeaks = 1
      rw [hl.1, hl.2]
  · rcases hr r hr' with hm' | ⟨rfl, hk⟩
    · exact hm r (h.res t r hm')
    · exact ⟨hdone, hk, Nat.le_add_left _ _⟩

theorem inv_post (h : Inv ⟨sh, ths⟩) (hdone : sh.once = .done) (hact : (ths t).act = some a) (hpost : postAt a)
    (hv : a.val = none) (htmp : a.tmp = none)
    (hsl : a.slot ≠ none → a.path = .dflt ∧ (a.pc = 8 ∨ a.pc = 9))
    (hst : stepTh sh t (ths t) = some (sh', th')) : Inv ⟨sh', upd ths t th'⟩ := by
  have hq0 : quietPost (ths t) := of_act hact (Or.inr ⟨hpost, hv, htmp, hsl⟩)
  have hs0 := of_act (P := (·.slot = none)) hact
  have hnd : ∀ {x : Th}, sh.once ≠ .done → quiet x := fun hne => absurd hdone hne
  obtain ⟨v, hdata⟩ := (done_phase h hdone).1
  have hres := h.res t
  -- the call returns the reference (`pc` is the last of its path; nothing is held any more)
  have ret : a.slot = none → sh' = sh ∧ th' = finish (ths t) (.ref v) → Inv ⟨sh', upd ths t th'⟩ := by
    rintro hslot ⟨rfl, rfl⟩
    exact inv_same_sh_noslot h hq0 (hs0 hslot) (quiet_quietPost (of_no_act rfl)) (of_no_act rfl) (fun _ => of_no_act rfl)
      (List.forall_mem_cons.2 ⟨⟨hdone, hdata⟩, hres⟩)
  rcases hpost with ⟨hp, hpc | hpc | hpc⟩ | ⟨hp, hpc | hpc⟩
  · -- dflt 8: onceExit
    obtain ⟨rfl, rfl⟩ := of_stepTh hact (tok := .onceExit) (by rw [hp, hpc]; rfl) hst rfl
    exact inv_done_keep_slot (a' := { a with pc := a.pc + 1 }) h hdone hact rfl rfl
      (of_act rfl (Or.inr ⟨Or.inl ⟨hp, Or.inr (Or.inl (by rw [hpc]))⟩, hv, htmp, fun _ => ⟨hp, Or.inr (by rw [hpc])⟩⟩)) hres
  · -- dflt 9: dropEscaped
    have post' : ∀ x, postAt { a with slot := x, pc := a.pc + 1 } := fun _ => Or.inl ⟨hp, Or.inr (Or.inr (by rw [hpc]))⟩
    have hq' : quietPost (goto (ths t) { a with slot := none, pc := a.pc + 1 }) :=
      of_act rfl (Or.inr ⟨post' none, hv, htmp, fun x => absurd rfl x⟩)
    cases hslot : a.slot with
    | none =>
      obtain ⟨rfl, rfl⟩ := of_stepTh hact (tok := .dropEscaped) (by rw [hp, hpc]; rfl) hst (interp_dropEscaped_none hslot)
      exact inv_same_sh_noslot h hq0 (hs0 hslot) (of_act rfl (Or.inr ⟨post' a.slot, hv, htmp, fun x => absurd hslot x⟩))
        (of_act rfl hslot) hnd hres
    | some c =>
      obtain ⟨rfl, rfl⟩ := of_stepTh hact (tok := .dropEscaped) (by rw [hp, hpc]; rfl) hst (interp_dropEscaped_some hslot)
      by_cases hk : sh.kind = .bomb
      · rw [if_pos hk]
        refine inv_drop_escaped h hdone hact hslot (quiet_quietPost (of_no_act rfl)) (of_no_act rfl) fun r hr => ?_
        rcases List.mem_cons.mp hr with rfl | hr
        · exact Or.inr ⟨rfl, hk⟩
        · exact Or.inl hr
      · rw [if_neg hk]
        exact inv_drop_escaped h hdone hact hslot hq' (of_act rfl rfl) fun r hr => Or.inl hr
  · -- dflt 10: ret
    refine ret (Decidable.byContradiction fun hc => ?_)
      (of_stepTh hact (tok := .ret) (by rw [hp, hpc]; rfl) hst (interp_ret hdata))
    have := (hsl hc).2; omega  -- against `hpc`
  · -- noDrop 5: onceExit
    have hslot : a.slot = none := Decidable.byContradiction fun hc => by
      have := (hsl hc).1; rw [hp] at this; cases this
    obtain ⟨rfl, rfl⟩ := of_stepTh hact (tok := .onceExit) (by rw [hp, hpc]; rfl) hst rfl
    exact inv_same_sh_noslot h hq0 (hs0 hslot)
      (of_act rfl (Or.inr ⟨Or.inr ⟨hp, Or.inr (by rw [hpc])⟩, hv, htmp, fun x => absurd hslot x⟩)) (of_act rfl hslot) hnd hres
  · -- noDrop 6: ret
    refine ret (Decidable.byContradiction fun hc => ?_)
      (of_stepTh hact (tok := .ret) (by rw [hp, hpc]; rfl) hst (interp_ret hdata))
    have := (hsl hc).1; rw [hp] at this; cases this

/-! ## Steps of the thread inside the closure -/

/-- the thread inside the closure moves on, changing at most the union, `inits` and the leak count -/
theorem inv_runner_stay (h : Inv ⟨sh, ths⟩) (hrun : sh.once = .running t) {data : Data} {inits seedLeaks : Nat}
    (hok : runnerOK { sh with data, inits, seedLeaks } a') :
    Inv ⟨{ sh with data, inits, seedLeaks }, upd ths t (goto (ths t) a')⟩ := by
  obtain ⟨a, _, _, hq⟩ := running_phase h hrun
  have hnd : sh.once ≠ .done := by rw [hrun]; nofun
  exact ⟨h.nub, phase_run_self hrun rfl hok hq, res_upd (res_not_done h hnd) (res_not_done h hnd t)⟩

/-- the initialiser fails: the once is empty again, the seed (as the initialiser left it) in the union -/
theorem inv_runner_fail {r : Res} (h : Inv ⟨sh, ths⟩) (hrun : sh.once = .running t) (c : Nat)
    (hin : sh.inits = 0) (hl : ledger0 sh) (hr : resOK { sh with once := .empty, data := .seed c } r) :
    Inv ⟨{ sh with once := .empty, data := .seed c }, upd ths t (finish (ths t) r)⟩ := by
  obtain ⟨a, _, _, hq⟩ := running_phase h hrun
  have hnd : sh.once ≠ .done := by rw [hrun]; nofun
  exact ⟨h.nub, phase_empty_upd rfl ⟨c, rfl⟩ hin hl hq (of_no_act rfl),
    res_upd (res_not_done h hnd) (List.forall_mem_cons.2 ⟨hr, res_not_done h hnd t⟩)⟩

/-- the user's initialiser runs: `Ok` moves on with the value in hand, `Err` / panic empty the once -/
theorem inv_callF (h : Inv ⟨sh, ths⟩) (hrun : sh.once = .running t)
    (hdata : ∃ c, sh.data = .seed c) (hin : sh.inits = 0) (hl : ledger0 sh)
    (hnext : ∀ sh2 : Sh, ∀ v, (∃ c, sh2.data = .seed c) → sh2.inits = 1 → ledger0 sh2 →
      runnerOK sh2 { a with val := some v, pc := a.pc + 1 })
    (hst : interp sh t (ths t) a .callF = some (sh', th')) : Inv ⟨sh', upd ths t th'⟩ := by
  obtain ⟨c, hc⟩ := hdata
  rw [interp_callF hc, abort_running (sh := { sh with data := .seed (c + a.out.delta) }) hrun] at hst
  cases hkind : a.out.kind with
  | ok =>
    rw [hkind] at hst
    cases hst
    exact inv_runner_stay h hrun (hnext _ _ ⟨_, rfl⟩ (congrArg (· + 1) hin) hl)
  | err | panic =>
    rw [hkind] at hst
    cases hst
    exact inv_runner_fail h hrun _ hin hl trivial

/-- `Ok(())` leaves the closure: the once becomes initialised -/
theorem inv_closureOk (h : Inv ⟨sh, ths⟩) (hrun : sh.once = .running t)
    (hv : a.val = none) (htmp : a.tmp = none) (hdata : ∃ v, sh.data = .value v) (hin : sh.inits = 1)
    (hpost : postAt { a with pc := a.pc + 1 })
    (hsl : a.slot ≠ none → a.path = .dflt ∧ (a.pc + 1 = 8 ∨ a.pc + 1 = 9))
    (hl : (a.slot ≠ none ∧ ledger0 sh) ∨ (a.slot = none ∧ sh.seedDrops + sh.seedLeaks = 1))
    (hst : interp sh t (ths t) a .closureOk = some (sh', th')) : Inv ⟨sh', upd ths t th'⟩ := by
  obtain ⟨_, _, _, hq⟩ := running_phase h hrun
  have hnd : sh.once ≠ .done := by rw [hrun]; nofun
  rw [interp_closureOk hrun] at hst
  cases hst
  have hothers : ∀ u, u ≠ t → ∀ b, (ths u).act = some b → b.slot = none :=
    fun u hu b hb => (hq u hu b hb).2.2.2
  refine ⟨h.nub, ?_, res_upd (res_not_done h hnd) (res_not_done h hnd t)⟩
  refine phase_done_upd rfl hdata hin (fun u hu => quiet_quietPost (hq u hu)) (of_act rfl (Or.inr ⟨hpost, hv, htmp, hsl⟩)) ?_
  rcases hl with ⟨hs, hl⟩ | ⟨hs, hl⟩
  · exact acct_self (a' := { a with pc := a.pc + 1 }) rfl hs hothers hl
  · exact acct_none hothers (of_act rfl hs) hl

theorem inv_runner (h : Inv ⟨sh, ths⟩) (hrun : sh.once = .running t) (hact : (ths t).act = some a)
    (hok : runnerOK sh a) (hst : stepTh sh t (ths t) = some (sh', th')) :
    Inv ⟨sh', upd ths t th'⟩ := by
  have hstep : ∀ tok, (progOf a.path)[a.pc]? = some tok →
      interp sh t (ths t) a tok = some (sh', th') := fun tok htok => (stepTh_act_tok hact htok).symm.trans hst
  -- a step inside the closure that keeps the once running. The new shared state is written as the record
  -- update that `inv_runner_stay` speaks of; for a token that leaves `sh` alone the equation asked for is
  -- `interp … = some ({ sh with data := sh.data, … }, _)`, which holds by `rfl` (structure eta).
  have stay : ∀ {tok : Tok} {data : Data} {inits seedLeaks : Nat} {a' : Act}, (progOf a.path)[a.pc]? = some tok →
      interp sh t (ths t) a tok = some ({ sh with data, inits, seedLeaks }, goto (ths t) a') →
      runnerOK { sh with data, inits, seedLeaks } a' → Inv ⟨sh', upd ths t th'⟩ := by
    intro tok data inits seedLeaks a' htok e hok
    obtain ⟨rfl, rfl⟩ := of_stepTh hact htok hst e
    exact inv_runner_stay h hrun hok
  rcases hok with ⟨hp, hpc, ⟨hv, htmp, hslot⟩, hd, hin, hl⟩ | ⟨hp, hpc, ⟨v, hv⟩, htmp, hslot, hd, hin, hl⟩ |
    ⟨hp, hpc, hv, ⟨c, htmp⟩, hslot, hd, hin, hl⟩ | ⟨hp, hpc, hv, htmp, ⟨c, hslot⟩, hd, hin, hl⟩ |
    ⟨hp, hpc, ⟨hv, htmp, hslot⟩, hd, hin, hl⟩ | ⟨hp, hpc, ⟨v, hv⟩, htmp, hslot, hd, hin, hl⟩ |
    ⟨hp, hpc, ⟨hv, htmp, hslot⟩, hd, hin, hl1, hl2⟩
  · rcases hpc with hpc | hpc
    · -- dflt 2: borrow
      exact stay (tok := .borrow) (by rw [hp, hpc]; rfl) rfl
        (Or.inl ⟨hp, Or.inr (by rw [hpc]), ⟨hv, htmp, hslot⟩, hd, hin, hl⟩)
    · -- dflt 3: callF
      refine inv_callF h hrun hd hin hl (fun sh2 v hd2 hin2 hl2 => ?_) (hstep .callF (by rw [hp, hpc]; rfl))
      exact Or.inr (Or.inl ⟨hp, Or.inl (by rw [hpc]), ⟨v, rfl⟩, htmp, hslot, hd2, hin2, hl2⟩)
  · rcases hpc with hpc | hpc
    · -- dflt 4: mkState
      exact stay (tok := .mkState) (by rw [hp, hpc]; rfl) rfl
        (Or.inr (Or.inl ⟨hp, Or.inr (by rw [hpc]), ⟨v, hv⟩, htmp, hslot, hd, hin, hl⟩))
    · -- dflt 5: replace
      obtain ⟨c, hc⟩ := hd
      exact stay (tok := .replace) (by rw [hp, hpc]; rfl) (interp_replace hc hv)
        (Or.inr (Or.inr (Or.inl ⟨hp, by rw [hpc], rfl, ⟨c, rfl⟩, hslot, ⟨v, rfl⟩, hin, hl⟩)))
  · -- dflt 6: escape
    exact stay (tok := .escape) (by rw [hp, hpc]; rfl) (interp_escape htmp)
      (Or.inr (Or.inr (Or.inr (Or.inl ⟨hp, by rw [hpc], hv, rfl, ⟨c, rfl⟩, hd, hin, hl⟩))))
  · -- dflt 7: closureOk
    refine inv_closureOk h hrun hv htmp hd hin ?_ ?_ (Or.inl ⟨by rw [hslot]; nofun, hl⟩)
      (hstep .closureOk (by rw [hp, hpc]; rfl))
    · exact Or.inl ⟨hp, Or.inl (by rw [hpc])⟩
    · intro _; exact ⟨hp, Or.inl (by rw [hpc])⟩
  · rcases hpc with hpc | hpc
    · -- noDrop 1: borrow
      exact stay (tok := .borrow) (by rw [hp, hpc]; rfl) rfl
        (Or.inr (Or.inr (Or.inr (Or.inr (Or.inl ⟨hp, Or.inr (by rw [hpc]), ⟨hv, htmp, hslot⟩, hd, hin, hl⟩)))))
    · -- noDrop 2: callF
      refine inv_callF h hrun hd hin hl (fun sh2 v hd2 hin2 hl2 => ?_) (hstep .callF (by rw [hp, hpc]; rfl))
      exact Or.inr (Or.inr (Or.inr (Or.inr (Or.inr (Or.inl ⟨hp, by rw [hpc], ⟨v, rfl⟩, htmp, hslot, hd2, hin2, hl2⟩)))))
  · -- noDrop 3: overwrite
    obtain ⟨c, hc⟩ := hd
    exact stay (tok := .overwrite) (by rw [hp, hpc]; rfl) (interp_overwrite hc hv)
      (Or.inr (Or.inr (Or.inr (Or.inr (Or.inr (Or.inr ⟨hp, by rw [hpc], ⟨rfl, htmp, hslot⟩, ⟨v, rfl⟩, hin, hl.1,
        congrArg (· + 1) hl.2⟩))))))
  · -- noDrop 4: closureOk
    refine inv_closureOk h hrun hv htmp hd hin ?_ ?_ (Or.inr ⟨hslot, by rw [hl1, hl2]⟩)
      (hstep .closureOk (by rw [hp, hpc]; rfl))
    · exact Or.inr ⟨hp, Or.inl (by rw [hpc])⟩
    · intro hc; exact absurd hslot hc

/-- **One step of any thread preserves the invariant.** -/
theorem step_inv (s : Sys) (t : Nat) (h : Inv s) : Inv (s.step t) := by
  obtain ⟨sh, ths⟩ := s
  unfold Sys.step
  cases hst : stepTh sh t (ths t) with
  | none => exact h
  | some p =>
    obtain ⟨sh', th'⟩ := p
    show Inv ⟨sh', upd ths t th'⟩
    cases hact : (ths t).act with
    | none => exact inv_idle h hact hst
    | some a =>
      rcases h.phase with ⟨h1, _, _, _, hq⟩ | ⟨r, ar, h1, h2, h3, hq⟩ | ⟨h1, _, _, hq, _⟩
      · obtain ⟨hpre, hregs⟩ := hq t a hact
        exact inv_pre h hact hpre hregs hst
      · by_cases hrt : t = r
        · subst hrt
          rw [hact] at h2; cases h2
          exact inv_runner h h1 hact h3 hst
        · obtain ⟨hpre, hregs⟩ := hq t hrt a hact
          exact inv_pre h hact hpre hregs hst
      · rcases hq t a hact with ⟨hpre, hregs⟩ | ⟨hpost, hv, htmp, hsl⟩
        · exact inv_pre h hact hpre hregs hst
        · exact inv_post h h1 hact hpost hv htmp hsl hst

theorem run_inv (s : Sys) (σ : List Nat) (h : Inv s) : Inv (run s σ) := by
  induction σ generalizing s with
  | nil => exact h
  | cons t σ ih => exact ih _ (step_inv s t h)

end AmVerif.Model.Cell
