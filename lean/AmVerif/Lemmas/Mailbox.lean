import AmVerif.Lemmas.MailboxRank
/-!
# Invariants of the answer mailbox (helper lemmas for C08)

`Inv` is preserved by every step (spurious wake-ups included) of every environment that is
*safe* (every update pass returns: no uncaught loader panic, no stack overflow) and *signalling*
(`wait_for_answer` notifies after emptying the slot — or there is at most one call).
-/
namespace AmVerif.Lemmas.Mailbox
open AmVerif.Model.Reloader AmVerif.Lemmas.MailboxStep AmVerif.Lemmas.MailboxRank

/-- every update pass comes back to the thread loop -/
def Safe (e : Env) : Prop := ∀ t, e.upd t = .ok ∨ (e.upd t = .panics ∧ e.catchesPanic = true)
/-- the slot-emptying caller wakes the reloader, or there is no second caller to be kept waiting -/
def Sig (e : Env) (n : Nat) : Prop := e.waitNotifies = true ∨ n ≤ 1

/-- `i2` and `i1` are the two clauses that exclude a lost wake-up: whoever the next move depends on
is not asleep. -/
structure Inv (n : Nat) (s : St) : Prop where
  b  : Bound n s
  /-- the owner of the token in the slot is not asleep: `publish` woke it, and a caller goes to sleep only
  after it has looked at the slot -/
  i2 : ∀ u, s.slot = some u → s.c u ≠ .sleeping
  /-- the token of call `t` is in exactly one place while the call is in flight, and nowhere otherwise -/
  j  : ∀ t, where_ s t = if active (s.c t) then 1 else 0
  /-- the reloader is asleep in `notify` only while the slot is full: the caller that empties it wakes
  the reloader (`Sig`), or is the only caller -/
  i1 : ∀ t, s.r = .sleep t → s.slot ≠ none
  al : s.r ≠ .dead ∧ s.r ≠ .aborted

theorem inv_init (n : Nat) : Inv n (init n) := by
  refine ⟨bound_init n, nofun, fun t => ?_, nofun, nofun, nofun⟩
  show 0 = _
  unfold init; dsimp only
  split <;> rfl

theorem active_of_where {s : St} (j : ∀ t, where_ s t = if active (s.c t) then 1 else 0) (t : Nat)
    (h : 0 < where_ s t) : active (s.c t) = true := by
  rw [j t] at h
  split at h
  · assumption
  · exact absurd h (Nat.lt_irrefl 0)

theorem inSlot_some (i k : Nat) : inSlot (some i) k = if i = k then 1 else 0 := by
  unfold inSlot; simp only [Option.some.injEq]

theorem inSlot_none (k : Nat) : inSlot none k = 0 := if_neg nofun

/-! How `j` moves with the caller `i` of a step: `W`, `W'` are `where_` before and after. -/

/-- the caller moves between two program counters that are both active or both not -/
theorem j_upd_same {W : Nat → Nat} {c : Nat → CPc} {i : Nat} {v : CPc} (h : active v = active (c i))
    (j : ∀ k, W k = if active (c k) then 1 else 0) (k : Nat) : W k = if active (upd c i v k) then 1 else 0 := by
  rw [active_upd]; split
  · rename_i hk; rw [h, ← hk]; exact j k
  · exact j k

/-- a token enters the system exactly when its caller becomes active ... -/
theorem j_enter {W W' : Nat → Nat} {c : Nat → CPc} {i : Nat} {v : CPc}
    (hW : ∀ k, W' k = W k + if i = k then 1 else 0) (hi : active (c i) = false) (hv : active v = true)
    (j : ∀ k, W k = if active (c k) then 1 else 0) (k : Nat) :
    W' k = if active (upd c i v k) then 1 else 0 := by
  rw [hW, j, active_upd]
  by_cases hk : i = k
  · subst hk; simp only [hi, hv, if_true]; rfl
  · simp only [hk, Ne.symm hk, if_false]; rfl

/-- ... and leaves it exactly when its caller stops being active -/
theorem j_leave {W W' : Nat → Nat} {c : Nat → CPc} {i : Nat} {v : CPc}
    (hW : ∀ k, W' k + (if i = k then 1 else 0) = W k) (hi : active (c i) = true) (hv : active v = false)
    (j : ∀ k, W k = if active (c k) then 1 else 0) (k : Nat) :
    W' k = if active (upd c i v k) then 1 else 0 := by
  have := hW k
  rw [j] at this
  rw [active_upd]
  by_cases hk : i = k
  · subst hk; simp only [hi, hv, if_true, Bool.false_eq_true, if_false] at this ⊢; omega
  · simp only [hk, Ne.symm hk, if_false] at this ⊢; exact this

/-- the reloader asleep with `t` in its hand while `i` is in the slot: two requests in flight -/
theorem two_in_flight {n : Nat} {s : St} (b : Bound n s)
    (j : ∀ k, where_ s k = if active (s.c k) then 1 else 0) {t i : Nat} (hr : s.r = .sleep t) (hsl : s.slot = some i) :
    2 ≤ n := by
  have lt : ∀ k, 0 < where_ s k → k < n := fun k hk =>
    b k fun hd => by have := active_of_where j k hk; rw [hd] at this; cases this
  have h1 : holds s.r t = 1 := by rw [hr]; exact if_pos rfl
  have h2 : inSlot s.slot i = 1 := by rw [hsl]; exact if_pos rfl
  have ht := lt t (by unfold where_; omega)
  have hi := lt i (by unfold where_; omega)
  -- one token is in one place only
  have le : where_ s i ≤ 1 := by rw [j i]; split <;> decide
  have : t ≠ i := fun hti => by subst hti; unfold where_ at le; omega
  omega

theorem alive_of_safe {e : Env} {s s' : St} {t : Tid} (hs : Safe e) (h : Step e s t s')
    (al : s.r ≠ .dead ∧ s.r ≠ .aborted) : s'.r ≠ .dead ∧ s'.r ≠ .aborted := by
  refine ⟨fun hd => ?_, fun ha => ?_⟩
  · rcases (alive_step h).2 hd with h1 | ⟨u, h1, h2⟩
    · exact al.1 h1
    · rcases hs u with h3 | ⟨_, h3⟩
      · rw [h3] at h1; cases h1
      · rw [h3] at h2; cases h2
  · rcases (alive_step h).1 ha with h1 | ⟨u, h1⟩
    · exact al.2 h1
    · rcases hs u with h3 | ⟨h3, _⟩ <;> rw [h3] at h1 <;> cases h1

theorem inv_step {e : Env} {n : Nat} {s s' : St} {t : Tid} (hs : Safe e) (hg : Sig e n) (h : Step e s t s')
    (hi : Inv n s) : Inv n s' := by
  have b' := bound_step h hi.b
  have al' := alive_of_safe hs h hi.al
  obtain ⟨b, i2, j, i1, al⟩ := hi
  cases h with
  | sendDead => exact absurd rfl al.1
  | dies => exact absurd rfl al'.1
  | aborts => exact absurd rfl al'.2
  | send i hc =>
    refine ⟨b', fun u hu => upd_ne (by decide) (i2 u hu), j_enter (fun k => ?_) (by rw [hc]; rfl) rfl j, i1, al'⟩
    simp only [where_, List.count_append, List.count_singleton, beq_iff_eq]; omega
  | takeWake i _ hc =>
    refine ⟨b', nofun, fun k => ?_, fun t ht => absurd ht (wakeR_ne_sleep _ t), al'⟩
    rw [active_wakeAll]
    refine j_leave (fun k => ?_) (active_of_waiting hc) rfl j k
    simp only [where_, holds_wakeR, inSlot_some, inSlot_none]; omega
  | takeSilent i hw hc =>
    refine ⟨b', nofun, j_leave (fun k => ?_) (active_of_waiting hc) rfl j, fun t ht => ?_, al'⟩
    · simp only [where_, inSlot_some, inSlot_none]; omega
    · -- nobody wakes a reloader asleep in `notify`: excluded because it takes two calls
      have : n ≤ 1 := hg.resolve_left (by rw [hw]; nofun)
      have := two_in_flight b j ht rfl
      omega
  | wait i hc hsl =>
    exact ⟨b', fun u hu => ne_of_eq_of_ne (upd_of_ne _ _ fun hui => hsl (hui ▸ hu)) (i2 u hu),
      j_upd_same (by rw [active_of_waiting hc]; rfl) j, i1, al'⟩
  | spurious i hc =>
    exact ⟨b', fun u hu => upd_ne (by decide) (i2 u hu), j_upd_same (by rw [hc]; rfl) j, i1, al'⟩
  | recv u =>
    refine ⟨b', i2, fun k => ?_, nofun, al'⟩
    rw [← j k]
    simp only [where_, holds, List.count_cons, beq_iff_eq]; omega
  -- `holds` does not tell `.upd t`, `.pub t` and `.sleep t` apart, so in the next three cases `where_` of the
  -- new state unfolds to that of the old one and `j` is passed on as it is
  | served => exact ⟨b', i2, j, nofun, al'⟩
  | full u v => exact ⟨b', i2, j, fun _ _ => nofun, al'⟩
  | spuriousR => exact ⟨b', i2, j, nofun, al'⟩
  | publish u =>
    refine ⟨b', fun _ _ => wakeAll_ne_sleeping _ _, fun k => ?_, nofun, al'⟩
    rw [active_wakeAll, ← j k]
    simp only [where_, holds, inSlot_some, inSlot_none]; omega

theorem inv_run {e : Env} {n : Nat} (hs : Safe e) (hg : Sig e n) (s : St) (σ : List Tid) (hi : Inv n s) :
    Inv n (run e s σ) :=
  run_inv (fun _ _ _ h => inv_step hs hg h) s σ hi

/-- With `Inv`, a call that has not returned is not stuck: the reloader can move, or the call itself, or a
call in flight. -/
theorem no_deadlock_of_inv (e : Env) (n : Nat) (s : St) (hinv : Inv n s) (i : Nat) (hnd : s.c i ≠ .done) :
    (step e s .reloader).isSome ∨ ∃ k, (k = i ∨ active (s.c k) = true) ∧ (step e s (.caller k)).isSome := by
  obtain ⟨_, i2, j, i1, al⟩ := hinv
  by_cases hsl : s.c i = .sleeping
  · -- `i` is asleep, so its token is on its way: whoever holds it, or blocks its way, can move
    have hw : where_ s i = 1 := by rw [j i, hsl]; rfl
    cases hr : s.r with
    | dead => exact absurd hr al.1
    | aborted => exact absurd hr al.2
    | upd t => exact .inl (reloader_enabled e (.inr (.inl ⟨t, hr⟩)))
    | pub t => exact .inl (reloader_enabled e (.inr (.inr ⟨t, hr⟩)))
    | recv =>
      cases hq : s.queue with
      | cons t q => exact .inl (reloader_enabled e (.inl ⟨t, q, hq, hr⟩))
      | nil =>
        rw [where_, hq, hr] at hw
        have : s.slot = some i := Decidable.byContradiction fun h => by
          rw [inSlot, if_neg h] at hw; cases hw
        exact absurd hsl (i2 i this)
    | sleep t =>
      cases hs : s.slot with
      | none => exact absurd hs (i1 t hr)
      | some u =>
        have hu := active_of_where j u (by rw [where_, hs, inSlot_some, if_pos rfl]; omega)
        exact .inr ⟨u, .inr hu, caller_enabled e al.2 (i2 u hs) (fun hd => by rw [hd] at hu; cases hu)⟩
  · exact .inr ⟨i, .inl rfl, caller_enabled e al.2 hsl hnd⟩

end AmVerif.Lemmas.Mailbox
