import AmVerif.Lemmas.Entry
/-!
# The ownership ledger (C13): every created value is held by exactly one live entry or has gone once

* `LedgerOK` — well-formedness of the ghost ledger `made` / `held` / `gone` against the map.
* list facts: the pigeonhole (`mem_of_nodup_full`), the permutations behind `release` / `swapValue`.
* `LedgerOK` is preserved by the four ghost updates at the places the model performs them
  (`LedgerOK.handOut`, `.add`, `.release`, `.swap`), hence by `eval` (`eval_ledger`),
  `step`, `reloadUntyped`, every step of the reloader thread (`LedgerOK.reloaderInv`) and every history (`runH_ledger`).
-/
namespace AmVerif.Model
open AmVerif.Gen

/-! ## List facts -/

/-- pigeonhole: a duplicate-free list of `n` naturals below `n` contains every natural below `n` -/
theorem mem_of_nodup_full (n : Nat) (l : List Nat) (hnd : l.Nodup) (hlt : ∀ x ∈ l, x < n) (hlen : l.length = n)
    (v : Nat) (hv : v < n) : v ∈ l := by
  apply Decidable.byContradiction
  intro hmem
  -- else `v :: l` would be `n + 1` distinct elements of `List.range n`
  have h := (List.nodup_cons.2 ⟨hmem, hnd⟩).length_le_of_subset (l₂ := List.range n) (fun x hx => by
    rcases List.mem_cons.1 hx with rfl | hx
    · exact List.mem_range.2 hv
    · exact List.mem_range.2 (hlt x hx))
  rw [List.length_cons, List.length_range, hlen] at h
  exact Nat.lt_irrefl _ h

theorem inj_of_nodup_map {α β : Type} (f : α → β) (l : List α) (h : (l.map f).Nodup) :
    ∀ x ∈ l, ∀ y ∈ l, f x = f y → x = y :=
  have h' := List.pairwise_map.1 h
  fun _ hx _ hy => List.Pairwise.forall_of_forall_of_flip (R := fun a b => f a = f b → a = b) (fun _ _ _ => rfl)
    (h'.imp fun h e => absurd e h) (h'.imp fun h e => absurd e.symm h) hx hy

theorem nodup_concat {α : Type} {l : List α} {a : α} (h : l.Nodup) (ha : a ∉ l) : (l ++ [a]).Nodup :=
  List.nodup_append.2 ⟨h, List.nodup_cons.2 ⟨List.not_mem_nil, List.nodup_nil⟩,
    fun x hx y hy e => ha (by rw [← List.mem_singleton.1 hy, ← e]; exact hx)⟩

/-- splitting the holders by a predicate on the address permutes the held values -/
theorem split_vals_perm (P : Nat → Prop) [DecidablePred P] (l : List (Nat × Nat)) :
    ((l.filter (fun x => P x.1)).map (·.2) ++ (l.filter (fun x => ¬ P x.1)).map (·.2)).Perm (l.map (·.2)) := by
  rw [← List.map_append]
  refine List.Perm.map _ ?_
  simpa using List.filter_append_perm (fun x : Nat × Nat => decide (P x.1)) l

theorem split_length (P : Nat → Prop) [DecidablePred P] (l : List (Nat × Nat)) :
    (l.filter (fun x => P x.1)).length + (l.filter (fun x => ¬ P x.1)).length = l.length := by
  have h := (split_vals_perm P l).length_eq
  simpa using h

/-- no holder at `addr`: `swapValue` does nothing to the holders -/
theorem swap_absent (addr n : Nat) (l : List (Nat × Nat)) (h : addr ∉ l.map (·.1)) :
    l.map (fun x => if x.1 = addr then (addr, n) else x) = l ∧ l.filter (fun x => x.1 = addr) = [] := by
  have hne : ∀ x ∈ l, ¬ x.1 = addr := fun x hx e => h (e ▸ List.mem_map_of_mem (f := (·.1)) hx)
  exact ⟨(List.map_congr_left fun x hx => (if_neg (hne x hx) : _ = id x)).trans (List.map_id l),
    List.filter_eq_nil_iff.2 fun x hx => by rw [decide_eq_true_eq]; exact hne x hx⟩

/-- exactly one holder at `addr`: after `swapValue` the held values and the value that left are the
old held values plus the new one -/
theorem swap_vals_perm (addr n : Nat) (l : List (Nat × Nat)) (hnd : (l.map (·.1)).Nodup) (hmem : addr ∈ l.map (·.1)) :
    ((l.map (fun x => if x.1 = addr then (addr, n) else x)).map (·.2) ++ (l.filter (fun x => x.1 = addr)).map (·.2)).Perm
      (n :: l.map (·.2)) := by
  -- split at the holder `x`: by `hnd` there is none before it and none after it (`swap_absent`)
  obtain ⟨x, hx, rfl⟩ := List.mem_map.1 hmem
  obtain ⟨a, b, rfl⟩ := List.append_of_mem hx
  rw [List.map_append, List.map_cons, List.nodup_append] at hnd
  obtain ⟨a1, a2⟩ := swap_absent x.1 n a (fun h => hnd.2.2 _ h _ List.mem_cons_self rfl)
  obtain ⟨b1, b2⟩ := swap_absent x.1 n b (List.nodup_cons.1 hnd.2.1).1
  rw [List.map_append, List.map_cons, a1, b1, List.filter_append, List.filter_cons, a2, b2]
  simp only [if_true, decide_true, List.nil_append, List.map_append, List.map_cons, List.map_nil, List.append_assoc,
    List.cons_append]
  -- A ++ n :: (B ++ [x.2]) ~ n :: (A ++ x.2 :: B)
  exact List.perm_middle.trans (((List.perm_append_singleton _ _).append_left _).cons _)

/-! ## Ledger well-formedness -/

/-- the values accounted for: held by a live entry, or gone -/
def St.vals (s : St) : List Nat := s.held.map (·.2) ++ s.gone

/-- ledger well-formedness -/
structure LedgerOK (s : St) : Prop where
  /-- one entry per key -/
  keys    : (s.map.map (·.1)).Nodup
  /-- entries have distinct addresses -/
  addrs   : (s.map.map (·.2.addr)).Nodup
  fresh   : ∀ x ∈ s.map, x.2.addr < s.next
  /-- the holders are exactly the live entries -/
  holders : s.held.map (·.1) = s.map.map (·.2.addr)
  /-- no value in two places, none gone twice -/
  once    : (s.held.map (·.2) ++ s.gone).Nodup
  /-- only created values -/
  known   : ∀ v ∈ s.held.map (·.2) ++ s.gone, v < s.made.length
  /-- none lost: every created value is held or gone -/
  all     : s.held.length + s.gone.length = s.made.length

theorem LedgerOK.init : LedgerOK ({} : St) :=
  ⟨List.nodup_nil, List.nodup_nil, fun _ h => (by cases h), rfl, List.nodup_nil, fun _ h => (by cases h), rfl⟩

/-- the ledger looks at the map, the address counter and `made` / `held` / `gone` only -/
theorem LedgerOK.frame {s : St} (h : LedgerOK s) {recs out ios loads} :
    LedgerOK { s with recs := recs, out := out, ios := ios, loads := loads } :=
  ⟨h.keys, h.addrs, h.fresh, h.holders, h.once, h.known, h.all⟩

theorem LedgerOK.record {s : St} (h : LedgerOK s) (on : Bool) (d : Dep) : LedgerOK (s.record on d) := by
  rcases St.record_cases s on d with e | ⟨_, _, _, e⟩ <;> rw [e]
  · exact h
  · exact h.frame

theorem St.vals_length (s : St) : s.vals.length = s.held.length + s.gone.length := by
  simp [St.vals]

/-- the value part of the invariant, from a permutation: nothing created -/
theorem LedgerOK.of_vals_perm {s t : St} (h : LedgerOK s)
    (keys : (t.map.map (·.1)).Nodup) (addrs : (t.map.map (·.2.addr)).Nodup) (fresh : ∀ x ∈ t.map, x.2.addr < t.next)
    (holders : t.held.map (·.1) = t.map.map (·.2.addr))
    (hmade : t.made = s.made) (hp : t.vals.Perm s.vals) : LedgerOK t := by
  refine ⟨keys, addrs, fresh, holders, ?_, ?_, ?_⟩
  · exact (hp.nodup_iff).2 h.once
  · intro v hv; rw [hmade]; exact h.known v ((hp.mem_iff).1 hv)
  · rw [← St.vals_length, hp.length_eq, St.vals_length, hmade]; exact h.all

/-- the value part of the invariant, from a permutation: one value created -/
theorem LedgerOK.of_vals_perm_new {s t : St} (h : LedgerOK s) (ty : Nat)
    (keys : (t.map.map (·.1)).Nodup) (addrs : (t.map.map (·.2.addr)).Nodup) (fresh : ∀ x ∈ t.map, x.2.addr < t.next)
    (holders : t.held.map (·.1) = t.map.map (·.2.addr))
    (hmade : t.made = s.made ++ [ty]) (hp : t.vals.Perm (s.made.length :: s.vals)) : LedgerOK t := by
  refine ⟨keys, addrs, fresh, holders, ?_, ?_, ?_⟩
  · refine (hp.nodup_iff).2 (List.nodup_cons.2 ⟨?_, h.once⟩)
    intro hm; exact Nat.lt_irrefl _ (h.known _ hm)
  · intro v hv
    rw [hmade, List.length_append]
    rcases List.mem_cons.1 ((hp.mem_iff).1 hv) with rfl | hv
    · exact Nat.lt_succ_self _
    · exact Nat.lt_succ_of_lt (h.known v hv)
  · rw [← St.vals_length, hp.length_eq, List.length_cons, St.vals_length, hmade, List.length_append, h.all]; rfl

theorem LedgerOK.held_nodup {s : St} (h : LedgerOK s) : (s.held.map (·.1)).Nodup := by
  rw [h.holders]; exact h.addrs

/-- the values accounted for are exactly the created ones: no duplicates among them, all of them created, and as many as
were created (the pigeonhole) -/
theorem LedgerOK.mem_vals {s : St} (h : LedgerOK s) (v : Nat) : v ∈ s.held.map (·.2) ++ s.gone ↔ v < s.made.length :=
  ⟨h.known v, mem_of_nodup_full _ _ h.once h.known ((St.vals_length s).trans h.all) v⟩

/-! ## The four ghost updates -/

/-- a value that leaves at once (`load_owned`; `get_or_insert` on a present key) -/
theorem LedgerOK.handOut {s : St} (h : LedgerOK s) (ty : Nat) : LedgerOK (s.handOut ty) := by
  refine h.of_vals_perm_new ty h.keys h.addrs h.fresh h.holders rfl ?_
  show (s.held.map (·.2) ++ (s.gone ++ [s.made.length])).Perm (s.made.length :: (s.held.map (·.2) ++ s.gone))
  rw [← List.append_assoc]
  exact List.perm_append_comm (l₁ := s.held.map (·.2) ++ s.gone) (l₂ := [s.made.length])

/-- the address counter may only grow; `dropped` is not looked at -/
theorem LedgerOK.next_le {s : St} (h : LedgerOK s) (n : Nat) (hn : s.next ≤ n) (d : List Nat) :
    LedgerOK { s with next := n, dropped := d } :=
  ⟨h.keys, h.addrs, fun x hx => Nat.lt_of_lt_of_le (h.fresh x hx) hn, h.holders, h.once, h.known, h.all⟩

/-- a freshly created value inserted keep-first at the next address: stored if the key was absent,
dropped with its entry if the key was there (`own`'s flag is what `insertKeepFirst` did) -/
theorem LedgerOK.add {s : St} (h : LedgerOK s) (k : Key) (c : Cell) (hc : c.addr = s.next) :
    LedgerOK (s.add k c (s.lookup k).isSome) := by
  unfold St.add St.insertKeepFirst
  cases hl : s.lookup k with
  | some c' => exact (h.handOut k.ty).next_le (s.next + 1) (Nat.le_succ _) _
  | none =>
    refine h.of_vals_perm_new k.ty ?_ ?_ ?_ ?_ rfl ?_
    · show ((s.map ++ [(k, c)]).map (·.1)).Nodup
      rw [List.map_append]
      exact nodup_concat h.keys (Assoc.not_mem_keys_of_find hl)
    · show ((s.map ++ [(k, c)]).map (·.2.addr)).Nodup
      rw [List.map_append]
      refine nodup_concat h.addrs (fun ha => ?_)
      obtain ⟨x, hx, ex⟩ := List.mem_map.1 ha
      exact Nat.lt_irrefl _ (hc ▸ ex ▸ h.fresh x hx)
    · intro x hx
      show x.2.addr < s.next + 1
      rcases List.mem_append.1 hx with hx | hx
      · exact Nat.lt_succ_of_lt (h.fresh x hx)
      · rw [List.mem_singleton.1 hx, hc]; exact Nat.lt_succ_self _
    · show (s.held ++ [(s.next, s.made.length)]).map (·.1) = (s.map ++ [(k, c)]).map (·.2.addr)
      rw [List.map_append, List.map_append, h.holders]
      exact congrArg (_ ++ [·]) hc.symm
    · show ((s.held ++ [(s.next, s.made.length)]).map (·.2) ++ s.gone).Perm (s.made.length :: (s.held.map (·.2) ++ s.gone))
      rw [List.map_append, List.append_assoc]
      exact List.perm_middle

/-- … for an absent key, as `get_or_insert` does it -/
theorem LedgerOK.add_absent {s : St} (h : LedgerOK s) (key : Key) (c : Cell) (hc : c.addr = s.next)
    (hl : s.lookup key = none) : LedgerOK (s.add key c false) := by
  have := h.add key c hc
  rwa [hl] at this

/-- the entries at the addresses `A` leave the map (`remove`, `take`, `clear`, dropping the cache), whatever `A` is:
their values go, the other entries keep theirs -/
theorem LedgerOK.release {s : St} (h : LedgerOK s) (A : List Nat) :
    LedgerOK (St.release { s with map := s.map.filter (fun x => x.2.addr ∉ A) } A) := by
  refine h.of_vals_perm ?_ ?_ ?_ ?_ rfl ?_
  · exact h.keys.sublist (List.Sublist.map _ List.filter_sublist)
  · exact h.addrs.sublist (List.Sublist.map _ List.filter_sublist)
  · intro x hx; exact h.fresh x (List.mem_filter.1 hx).1
  · show (s.held.filter (fun x => x.1 ∉ A)).map (·.1) = (s.map.filter (fun x => x.2.addr ∉ A)).map (·.2.addr)
    have e : ∀ {α : Type} (f : α → Nat) (l : List α), (l.filter (fun x => f x ∉ A)).map f = (l.map f).filter (· ∉ A) :=
      fun f l => (List.filter_map (f := f) (p := fun a => decide (a ∉ A)) (l := l)).symm
    rw [e (fun x : Nat × Nat => x.1), e (fun x : Key × Cell => x.2.addr), h.holders]
  · show ((s.held.filter (fun x => x.1 ∉ A)).map (·.2) ++ (s.gone ++ (s.held.filter (fun x => x.1 ∈ A)).map (·.2))).Perm
        (s.held.map (·.2) ++ s.gone)
    refine List.Perm.trans ?_ (List.Perm.append (split_vals_perm (· ∈ A) s.held) (List.Perm.refl s.gone))
    -- B ++ (gone ++ A') ~ (A' ++ B) ++ gone
    exact List.perm_append_comm.trans (by rw [List.append_assoc]; exact List.perm_append_comm)

theorem addrsOf_eq (s : St) (key : Key) : addrsOf s key = (s.map.filter (fun x => decide (x.1 = key))).map (·.2.addr) := rfl

/-- `remove` / `take`: addresses are distinct, so the entries at the addresses of `key` are the entries of `key` -/
theorem LedgerOK.remove {s : St} (h : LedgerOK s) (key : Key) :
    LedgerOK (St.release { s with map := s.map.filter (·.1 ≠ key) } (addrsOf s key)) := by
  have e : s.map.filter (·.1 ≠ key) = s.map.filter (fun x => x.2.addr ∉ addrsOf s key) := by
    refine List.filter_congr (fun x hx => ?_)
    by_cases hk : x.1 = key
    · have : x.2.addr ∈ addrsOf s key := List.mem_map.2 ⟨x, List.mem_filter.2 ⟨hx, by simpa using hk⟩, rfl⟩
      simp [hk, this]
    · have : x.2.addr ∉ addrsOf s key := fun hm => by
        obtain ⟨y, hy, e⟩ := List.mem_map.1 hm
        have hy' := List.mem_filter.1 hy
        rw [inj_of_nodup_map (·.2.addr) s.map h.addrs y hy'.1 x hx e] at hy'
        exact hk (by simpa using hy'.2)
      simp [hk, this]
  rw [e]; exact h.release _

/-- `clear`, dropping the cache: every entry leaves -/
theorem LedgerOK.dropAll {s : St} (h : LedgerOK s) :
    LedgerOK (St.release { s with map := [] } (s.map.map (·.2.addr))) := by
  have e : s.map.filter (fun x => x.2.addr ∉ s.map.map (·.2.addr)) = [] :=
    List.filter_eq_nil_iff.2 (fun x hx => by
      have : x.2.addr ∈ s.map.map (·.2.addr) := List.mem_map.2 ⟨x, hx, rfl⟩
      simp [this])
  have := h.release (s.map.map (·.2.addr))
  rwa [e] at this

/-- `UntypedEntry::write`: the cell under `key` gets a new value (same entry, same address), the
value it held goes -/
theorem LedgerOK.swap {s : St} (h : LedgerOK s) (key : Key) (c c2 : Cell) (ty : Nat)
    (hl : s.lookup key = some c) (ha : c2.addr = c.addr) :
    LedgerOK ((s.setCell key c2).swapValue ty c.addr) := by
  have hmem : (key, c) ∈ s.map := Assoc.mem_of_find hl
  -- the overwrite keeps the keys, and (the new cell has the address of the one cell under `key`) the addresses
  have hk : (s.setCell key c2).map.map (·.1) = s.map.map (·.1) := Assoc.map_update (·.1) s.map key c2 fun _ _ e => e.symm
  have hadd : (s.setCell key c2).map.map (·.2.addr) = s.map.map (·.2.addr) :=
    Assoc.map_update (·.2.addr) s.map key c2 fun x hx e => by
      rw [inj_of_nodup_map (·.1) s.map h.keys x hx (key, c) hmem e]; exact ha
  have haddr_mem : c.addr ∈ s.held.map (·.1) := by
    rw [h.holders]; exact List.mem_map.2 ⟨(key, c), hmem, rfl⟩
  refine h.of_vals_perm_new ty ?_ ?_ ?_ ?_ rfl ?_
  · show ((s.setCell key c2).map.map (·.1)).Nodup
    rw [hk]; exact h.keys
  · show ((s.setCell key c2).map.map (·.2.addr)).Nodup
    rw [hadd]; exact h.addrs
  · have hf := (List.forall_mem_map (f := fun x : Key × Cell => x.2.addr) (P := (· < s.next))).2 h.fresh
    rw [← hadd] at hf
    exact List.forall_mem_map.1 hf
  · show (s.held.map (fun x => if x.1 = c.addr then (c.addr, s.made.length) else x)).map (·.1) = (s.setCell key c2).map.map (·.2.addr)
    rw [Assoc.map_update (·.1) s.held c.addr _ fun _ _ e => e.symm, hadd]; exact h.holders
  · show ((s.held.map (fun x => if x.1 = c.addr then (c.addr, s.made.length) else x)).map (·.2)
        ++ (s.gone ++ (s.held.filter (fun x => x.1 = c.addr)).map (·.2))).Perm (s.made.length :: (s.held.map (·.2) ++ s.gone))
    have hp := swap_vals_perm c.addr s.made.length s.held h.held_nodup haddr_mem
    generalize (s.held.map (fun x => if x.1 = c.addr then (c.addr, s.made.length) else x)).map (·.2) = M at hp ⊢
    generalize (s.held.filter (fun x => x.1 = c.addr)).map (·.2) = F at hp ⊢
    -- M ++ (gone ++ F) ~ (M ++ F) ++ gone ~ (n :: H) ++ gone
    have h1 : (M ++ (s.gone ++ F)).Perm ((M ++ F) ++ s.gone) := by
      rw [List.append_assoc]
      exact List.Perm.append (List.Perm.refl M) List.perm_append_comm
    exact h1.trans (List.Perm.append hp (List.Perm.refl s.gone))

/-! ## `eval` -/

/-- the ledger stays well-formed across each primitive update of `eval` -/
theorem LedgerOK.evalRel (env : Env) (Q) : EvalRel env Q (fun s t => LedgerOK s → LedgerOK t) where
  refl _ h := h
  trans h1 h2 h := h2 (h1 h)
  record _ on d h := h.record on d
  ios _ h := h.frame
  loads _ h := h.frame
  send _ _ h := h.frame
  handOut _ ty h := h.handOut ty
  addLoad _ key _ _ _ h := h.add key _ rfl
  addAny _ key _ _ _ hl h := h.add_absent key _ rfl hl
  frame _ _ _ hb h := (hb h.frame).frame

/-- **Every loader program preserves the ledger**: nested loads, `load_owned`, `get_or_insert` (also into the slot being loaded), failures, panics, fuel
exhaustion, helper threads, `no_record`. -/
theorem eval_ledger (env : Env) (f : Nat) (s : St) (p : Prog) : LedgerOK s → LedgerOK (eval env f s p).1 :=
  (LedgerOK.evalRel env _).eval_all f s p

theorem evalTop_ledger (env : Env) (fuel : Nat) (s : St) (p : Prog) (h : LedgerOK s) : LedgerOK (evalTop env fuel s p).1 := by
  unfold evalTop
  exact (eval_ledger env fuel { s with recs := [] } p h.frame).frame

/-! ## API operations -/

theorem step_ledger (env : Env) (fuel : Nat) (s : St) (op : Op) (h : LedgerOK s) : LedgerOK (step env fuel s op).1 := by
  cases op with
  | load key => rw [step_load_fst]; exact evalTop_ledger env fuel s _ h
  | loadOwned key => rw [step_loadOwned_fst]; exact evalTop_ledger env fuel s _ h
  | getCached key => exact h
  | contains key => exact h
  | getOrInsert key v =>
    simp only [step]
    cases hl : s.lookup key with
    | some c' => exact h.handOut key.ty
    | none => exact h.add_absent key (insertedCell env key v s.next) rfl hl
  | remove key => exact h.remove key
  | take key => exact h.remove key
  | clear =>
    simp only [step]
    cases env.hasReloader with
    | false => exact h.dropAll
    | true => exact h.dropAll.frame

/-! ## Hot-reloading -/

theorem reloadUntyped_ledger (env : Env) (fuel : Nat) (s : St) (key : Key) (h : LedgerOK s) :
    LedgerOK (reloadUntyped env fuel s key).1 := by
  rcases reloadUntyped_evaluated_or env fuel s key with ⟨c, hc, hsk⟩ | e
  · have hle := reloadEval_le env fuel s key key c hc
    have hok : LedgerOK (reloadEval env fuel s key).1 :=
      (LedgerOK.evalRel env (fun _ => True)).withFrame true (some []) _ _ (fun s hs => eval_ledger env fuel s _ hs)
        (h.frame (recs := []))
    rw [reloadUntyped_evaluated env fuel s key c hc hsk]
    generalize reloadEval env fuel s key = y at hle hok
    obtain ⟨s1, o, deps⟩ := y
    cases o with
    | ok v =>
      dsimp only
      split
      · exact hok.swap key c _ key.ty hle rfl
      · exact hok.handOut key.ty
    | _ => exact hok
  · rw [e]; exact h

/-- every step of the reloader thread keeps the ledger well-formed -/
theorem LedgerOK.reloaderInv (env : Env) (fuel : Nat) : ReloaderInv env fuel (fun s _ => LedgerOK s) :=
  .of_cache (fun _ h => h.frame) (reloadUntyped_ledger env fuel)

/-! ## Histories -/

theorem hstep_ledger (fuel : Nat) (e : Env × HOp) (x : St × RSt) (h : LedgerOK x.1) : LedgerOK (hstep fuel e x).1 :=
  (LedgerOK.reloaderInv e.1 fuel).hstep e.2 x (fun o _ => step_ledger e.1 fuel x.1 o h) h

theorem runH_ledger (fuel : Nat) (hs : List (Env × HOp)) (x : St × RSt) (h : LedgerOK x.1) : LedgerOK (runH fuel hs x).1 :=
  runH_inv fuel (fun x => LedgerOK x.1) hs (fun e _ x => hstep_ledger fuel e x) x h

end AmVerif.Model
