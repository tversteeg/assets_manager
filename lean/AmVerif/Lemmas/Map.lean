import AmVerif.Model.Map
import AmVerif.Lemmas.Assoc
/-!
# Refinement: sharded map ≃ flat map ≃ abstract map

For every hasher, every number of shards and every operation sequence, the sharded map and the
flat map return what the abstract map `Key → Option Cell` returns. The theorems stand beside
`AL`, `SMap` and `FMap` in the model's namespace `AmVerif.Model`.
-/
namespace AmVerif.Model
open AmVerif.Gen

/-! ### One association list -/

/-- Appending a fresh key, in the form `FMap.step` gives to `insert`. -/
theorem AL.get_append (m : AL) (k k' : Key) (c : Cell) (h : AL.get m k = none) :
    AL.get (m ++ [(k, c)]) k' = if k' = k then some c else AL.get m k' :=
  Assoc.find_append h k' c

/-- Filtering a key out, in the form `FMap.step` gives to `remove`. -/
theorem AL.get_filter (m : AL) (k k' : Key) :
    AL.get (m.filter (·.1 ≠ k)) k' = if k' = k then none else AL.get m k' :=
  Assoc.find_filter m k k'

/-- abstraction of an association list -/
def AL.abs (m : AL) : FMap := fun k => m.get k

theorem AL.step_refines (m : AL) (op : MOp) :
    (m.step op).2 = (m.abs.step op).2 ∧ (m.step op).1.abs = (m.abs.step op).1 := by
  cases op with
  | get k => exact ⟨rfl, rfl⟩
  | contains k => exact ⟨rfl, rfl⟩
  | clear => exact ⟨rfl, rfl⟩
  | insert k c =>
    simp only [AL.step, FMap.step, AL.insert, AL.abs]
    cases h : m.get k with
    | some c' => exact ⟨rfl, rfl⟩
    | none => exact ⟨rfl, funext fun k' => AL.get_append m k k' c h⟩
  | remove k => exact ⟨rfl, funext fun k' => AL.get_filter m k k'⟩

/-- **Flat map refines the abstract map**, for every operation sequence. -/
theorem AL.refines (m : AL) (ops : List MOp) : m.run ops = m.abs.run ops := by
  induction ops generalizing m with
  | nil => rfl
  | cons op ops ih =>
    simp only [AL.run, FMap.run]
    rw [(AL.step_refines m op).1, ih, (AL.step_refines m op).2]

/-! ### Shards -/

/-- The `&self` and the `&mut self` operations pick the same shard (regenerated from `get_shard`
and `get_shard_mut`). -/
theorem shard_index_agree (hash len : Nat) : shardIndexMut hash len = shardIndex hash len := rfl

/-- abstraction of the sharded map: look the key up in *its* shard -/
def SMap.abs (hash : Key → Nat) (m : SMap) : FMap := fun k => (m.shard (shardIndex (hash k) m.len)).get k

theorem updAt_same (f : Nat → AL) (i : Nat) (v : AL) : updAt f i v i = v := by simp [updAt]
theorem updAt_other (f : Nat → AL) (i j : Nat) (v : AL) (h : j ≠ i) : updAt f i v j = f j := by simp [updAt, h]
theorem updAt_self (f : Nat → AL) (i : Nat) : updAt f i (f i) = f := by
  funext j; unfold updAt; split
  · next h => rw [h]
  · rfl

theorem SMap.step_refines (hash : Key → Nat) (m : SMap) (op : MOp) :
    (m.step hash op).2 = ((m.abs hash).step op).2 ∧ (m.step hash op).1.abs hash = ((m.abs hash).step op).1 := by
  cases op with
  | get k => exact ⟨rfl, rfl⟩
  | contains k => exact ⟨rfl, rfl⟩
  | clear => exact ⟨rfl, rfl⟩
  | insert k c =>
    simp only [SMap.step, FMap.step, AL.insert, SMap.abs]
    cases h : (m.shard (shardIndex (hash k) m.len)).get k with
    | some c' =>
      -- the shard is written back as it is
      dsimp only
      rw [updAt_self]
      exact ⟨rfl, rfl⟩
    | none =>
      refine ⟨rfl, funext fun k' => ?_⟩
      dsimp only [SMap.abs]
      by_cases hi : shardIndex (hash k') m.len = shardIndex (hash k) m.len
      · rw [hi, updAt_same, AL.get_append _ k k' c h]
      · rw [updAt_other _ _ _ _ hi, if_neg (fun e => hi (by rw [e]))]
  | remove k =>
    refine ⟨rfl, funext fun k' => ?_⟩
    simp only [SMap.step, SMap.abs, FMap.step, AL.remove, shard_index_agree]
    by_cases hi : shardIndex (hash k') m.len = shardIndex (hash k) m.len
    · rw [hi, updAt_same, AL.get_filter _ k k']
    · rw [updAt_other _ _ _ _ hi, if_neg (fun e => hi (by rw [e]))]

theorem SMap.step_len (hash : Key → Nat) (m : SMap) (op : MOp) : (m.step hash op).1.len = m.len := by
  cases op <;> rfl

/-- **Sharded map refines the abstract map**: for every hasher (seed), every shard count and
every operation sequence. -/
theorem SMap.refines (hash : Key → Nat) (m : SMap) (ops : List MOp) :
    m.run hash ops = (m.abs hash).run ops := by
  induction ops generalizing m with
  | nil => rfl
  | cons op ops ih =>
    simp only [SMap.run, FMap.run]
    rw [(SMap.step_refines hash m op).1, ih, (SMap.step_refines hash m op).2]

end AmVerif.Model
