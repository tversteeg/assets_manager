import AmVerif.Lemmas.IsoStep
/-!
# Tokens, answers and the event log of `Model/Iso.lean`

`TokInv`: a token is in at most one place (a caller's hand, the channel, the reloader's hand before
its answer is posted), answers are posted only after the update, and the ghost log is well-ordered
(`OkLog`). Preserved by every step when the extracted configuration is well-formed.
-/
namespace AmVerif.Lemmas.IsoTok
open AmVerif.Model.Iso

/-- the caller has token `u` in hand: taken and not yet sent, or sent and not yet returned with -/
def holdsTok : CS → Nat → Prop
  | .got t, u => t = u
  | .waiting t, u => t = u
  | .idle, _ => False

theorem holds_got {x : CS} {t : Nat} (h : x = .got t) : holdsTok x t := h ▸ rfl
theorem holds_waiting {x : CS} {t : Nat} (h : x = .waiting t) : holdsTok x t := h ▸ rfl

/-- Newest-first log: each write of pass `t` has a `sent c t` among the older events, and these hold no
return for token `t` at all (so that caller has not returned). -/
def OkLog : List Ev → Prop
  | [] => True
  | .wr t :: older => ((∃ c, .sent c t ∈ older) ∧ ∀ c, .ret c t ∉ older) ∧ OkLog older
  | .sent _ _ :: older => OkLog older
  | .ret _ _ :: older => OkLog older

structure TokInv (s : St) : Prop where
  /-- what is left of the arm still answers after it updates -/
  arm : armOk s.rrest = true
  /-- a `write` call runs only inside an `update` step of the arm -/
  inwrite : s.wrest ≠ [] → ∃ rr, s.rrest = .update :: rr
  /-- a token in a caller's hand has been handed out ... -/
  lt : ∀ c t, holdsTok (s.cl c) t → t < s.nextTok
  /-- ... to that caller only -/
  uniq : ∀ c c' t, holdsTok (s.cl c) t → holdsTok (s.cl c') t → c = c'
  q_wait : ∀ t ∈ s.queue, (∃ c, s.cl c = .waiting t) ∧ t ∉ s.answered
  q_nodup : s.queue.Nodup
  /-- while the arm has its `notify` to do, `cur` is the request being served: its caller waits, it has
  no answer yet, and it is no longer in the channel -/
  serving : .notify ∈ s.rrest → (∃ c, s.cl c = .waiting s.cur) ∧ s.cur ∉ s.answered ∧ s.cur ∉ s.queue
  /-- a token taken and not yet sent is nowhere else -/
  got_fresh : ∀ c t, s.cl c = .got t → t ∉ s.queue ∧ (.notify ∈ s.rrest → s.cur ≠ t) ∧ t ∉ s.answered
  ans_lt : ∀ t ∈ s.answered, t < s.nextTok
  ret_lt : ∀ c t, .ret c t ∈ s.log → t < s.nextTok
  /-- a token some call has returned with is in no caller's hand any more: tokens are not used twice -/
  retd : ∀ c c' t, .ret c t ∈ s.log → ¬ holdsTok (s.cl c') t
  /-- the `send` of a waiting caller is in the log -/
  sent : ∀ c t, s.cl c = .waiting t → .sent c t ∈ s.log
  log : OkLog s.log

variable {cfg : Cfg} {s : St}

theorem init_inv (n : Nat) : TokInv (init n) where
  arm := rfl
  inwrite := by intro h; exact absurd rfl h
  lt := by intro c t h; exact absurd h (by simp [init, holdsTok])
  uniq := by intro c c' t h; exact absurd h (by simp [init, holdsTok])
  q_wait := by intro t h; simp [init] at h
  q_nodup := List.nodup_nil
  serving := by intro h; simp [init] at h
  got_fresh := by intro c t h; simp [init] at h
  ans_lt := by intro t h; simp [init] at h
  ret_lt := by intro c t h; simp [init] at h
  retd := by intro c c' t h; simp [init] at h
  sent := by intro c t h; simp [init] at h
  log := trivial

theorem notify_mem_of_arm {rr : List RStep} (h : armOk (.update :: rr) = true) : RStep.notify ∈ rr := by
  simp only [armOk, Bool.and_eq_true] at h
  exact List.contains_iff_mem.mp h.1

/-- While a `write` call runs the arm still has its `notify` to do. -/
theorem TokInv.notify_of_writing (h : TokInv s) (hne : s.wrest ≠ []) : RStep.notify ∈ s.rrest := by
  obtain ⟨rr, er⟩ := h.inwrite hne
  rw [er]; exact List.mem_cons_of_mem _ (notify_mem_of_arm (by rw [← er]; exact h.arm))

/-- Steps that leave the token state alone: a `write` call runs only inside an `update` step, and at most
a write is logged while one is running. -/
theorem TokInv.frame (h : TokInv s) {words : Nat → Nat} {rid : Nat} {flag : Bool} {wheld : Option LockKind}
    {rd : Nat → RS} {wrest : List WStep} {ci ver : Nat} {log : List Ev} (hw : wrest ≠ [] → ∃ rr, s.rrest = .update :: rr)
    (hl : log = s.log ∨ (log = .wr s.cur :: s.log ∧ s.wrest ≠ [])) :
    TokInv { s with words, rid, flag, wheld, rd, wrest, ci, ver, log } := by
  -- what the log part of the invariant needs: no new `ret`, no `sent` lost, the new log well-ordered
  have hlog : (∀ c t, Ev.ret c t ∈ log → Ev.ret c t ∈ s.log) ∧ (∀ c t, Ev.sent c t ∈ s.log → Ev.sent c t ∈ log) ∧
      OkLog log := by
    rcases hl with hl | ⟨hl, hne⟩
    · rw [hl]; exact ⟨fun _ _ x => x, fun _ _ x => x, h.log⟩
    · obtain ⟨⟨c0, hc0⟩, _, _⟩ := h.serving (h.notify_of_writing hne)
      have nr : ∀ c, Ev.ret c s.cur ∉ s.log := fun c hm => h.retd c c0 s.cur hm (holds_waiting hc0)
      rw [hl]
      exact ⟨fun c t hm => (List.mem_cons.mp hm).resolve_left nofun, fun c t hm => List.mem_cons_of_mem _ hm,
        ⟨⟨c0, h.sent c0 s.cur hc0⟩, nr⟩, h.log⟩
  obtain ⟨mem_ret, mem_sent, hok⟩ := hlog
  exact { h with
    inwrite := hw
    ret_lt := fun c t hm => h.ret_lt c t (mem_ret c t hm)
    retd := fun c c' t hm => h.retd c c' t (mem_ret c t hm)
    sent := fun c t hm => mem_sent c t (h.sent c t hm)
    log := hok }

theorem reader_step (h : TokInv s) (r : Nat) (a : Act) : TokInv (stepReader cfg s r a) := by
  rcases stepReader_cases cfg s r a with e | ⟨x, _, e⟩ <;> rw [e]
  · exact h
  · exact h.frame h.inwrite (Or.inl rfl)

theorem writer_step (h : TokInv s) (w : WStep) (rest : List WStep) (e : s.wrest = w :: rest) :
    TokInv (stepW cfg s w rest) := by
  have hne : s.wrest ≠ [] := by rw [e]; exact List.cons_ne_nil _ _
  obtain ⟨_, _, _, _, _, _, _, eq, hl⟩ := stepW_frame cfg s w rest
  rw [eq]
  exact h.frame (fun _ => h.inwrite hne) (hl.imp (·.2.2) fun x => ⟨x.2, hne⟩)

theorem rl_step (hc : cfg.WF = true) (h : TokInv s) (more : Bool) : TokInv (stepRl cfg s more) := by
  obtain ⟨_, _, _, _, harm, _⟩ := wf_parts hc
  unfold stepRl
  split
  · rename_i w rest e; exact writer_step h w rest e
  · rename_i e
    have hvac : ∀ {P : Prop}, s.wrest ≠ [] → P := fun x => absurd e x
    split
    · -- no arm is running: the next request, if any, leaves the channel and becomes `cur`
      split
      · rename_i t q eq
        have hq := h.q_nodup; rw [eq] at hq
        have hq' := List.nodup_cons.mp hq
        have hw := h.q_wait t (by rw [eq]; exact List.mem_cons_self)
        refine { h with
          arm := harm
          inwrite := fun x => hvac x
          q_wait := fun t' ht' => h.q_wait t' (by rw [eq]; exact List.mem_cons_of_mem _ ht')
          q_nodup := hq'.2
          serving := fun _ => ⟨hw.1, hw.2, hq'.1⟩
          got_fresh := fun c u hcu => ?_ }
        have g := h.got_fresh c u hcu
        have hnq : u ∉ t :: q := by rw [← eq]; exact g.1
        exact ⟨fun x => hnq (List.mem_cons_of_mem _ x), fun _ x => hnq (by rw [← x]; exact List.mem_cons_self), g.2.2⟩
      · exact h
    · -- the arm is at `update`: one more `write` call starts, or the arm moves on
      rename_i rr er
      split
      · exact h.frame (fun _ => ⟨rr, er⟩) (Or.inl rfl)
      · have ha := h.arm; rw [er] at ha
        simp only [armOk, Bool.and_eq_true] at ha
        have sub : RStep.notify ∈ rr → RStep.notify ∈ s.rrest := fun x => by rw [er]; exact List.mem_cons_of_mem _ x
        refine { h with
          arm := ha.2
          inwrite := fun x => hvac x
          serving := fun x => h.serving (sub x)
          got_fresh := fun c u hcu => ?_ }
        have g := h.got_fresh c u hcu
        exact ⟨g.1, fun x => g.2.1 (sub x), g.2.2⟩
    · -- the arm is at `notify`, its last step: the answer for `cur` is posted
      rename_i rr er
      have ha := h.arm; rw [er] at ha
      simp only [armOk, List.isEmpty_iff] at ha
      subst ha
      have hn : RStep.notify ∈ s.rrest := by rw [er]; exact List.mem_cons_self
      obtain ⟨⟨c0, hc0⟩, hna, hnq⟩ := h.serving hn
      refine { h with
        arm := rfl
        inwrite := fun x => hvac x
        q_wait := fun t ht => ?q_wait
        serving := nofun
        got_fresh := fun c u hcu => ?got_fresh
        ans_lt := fun t hm => ?ans_lt }
      case q_wait =>
        have g := h.q_wait t ht
        refine ⟨g.1, fun hm => ?_⟩
        rcases List.mem_cons.mp hm with x | x
        · exact hnq (by rw [← x]; exact ht)
        · exact g.2 x
      case got_fresh =>
        have g := h.got_fresh c u hcu
        refine ⟨g.1, nofun, fun hm => ?_⟩
        rcases List.mem_cons.mp hm with x | x
        · exact g.2.1 hn x.symm
        · exact g.2.2 x
      case ans_lt =>
        rcases List.mem_cons.mp hm with x | x
        · rw [x]; exact h.lt c0 s.cur (holds_waiting hc0)
        · exact h.ans_lt t x

/-! ### Callers of `hot_reload`

Each caller move is `cl := upd s.cl c v`. What the invariant says of a caller after the move is traced
back through `holds_upd` / `upd_cases` (it is `c` with its new state, or another caller as it was), and a
caller that waits is carried forward by `upd_keeps`. -/

theorem holds_upd {cl : Nat → CS} {c c' u : Nat} {v : CS} (h : holdsTok (upd cl c v c') u) :
    (c' = c ∧ holdsTok v u) ∨ (c' ≠ c ∧ holdsTok (cl c') u) :=
  upd_cases (P := (holdsTok · u)) h

theorem tok_step (h : TokInv s) (c : Nat) (ei : s.cl c = .idle) :
    TokInv { s with cl := upd s.cl c (.got s.nextTok), nextTok := s.nextTok + 1 } := by
  have keep : ∀ c0 u, s.cl c0 = .waiting u → upd s.cl c (.got s.nextTok) c0 = .waiting u :=
    fun c0 u => upd_keeps _ (by rw [ei]; nofun)
  -- the new token is above every token in use
  have fresh : ∀ c0, ¬ holdsTok (s.cl c0) s.nextTok := fun c0 x => Nat.lt_irrefl _ (h.lt c0 _ x)
  refine { h with
    lt := fun c' t ht => ?lt
    uniq := fun c1 c2 t h1 h2 => ?uniq
    q_wait := fun t ht => (h.q_wait t ht).imp_left fun ⟨c0, hc0⟩ => ⟨c0, keep c0 t hc0⟩
    serving := fun hn => (h.serving hn).imp_left fun ⟨c0, hc0⟩ => ⟨c0, keep c0 _ hc0⟩
    got_fresh := fun c' t ht => ?got_fresh
    ans_lt := fun t ht => Nat.lt_succ_of_lt (h.ans_lt t ht)
    ret_lt := fun c' t ht => Nat.lt_succ_of_lt (h.ret_lt c' t ht)
    retd := fun c1 c2 t hm ht => ?retd
    sent := fun c' t ht => h.sent c' t ((upd_cases (P := (· = CS.waiting t)) ht).elim (fun x => nomatch x.2) (·.2)) }
  case lt =>
    rcases holds_upd ht with ⟨_, rfl⟩ | ⟨_, h'⟩
    · exact Nat.lt_succ_self _
    · exact Nat.lt_succ_of_lt (h.lt c' t h')
  case uniq =>
    rcases holds_upd h1 with ⟨e1, rfl⟩ | ⟨_, h1'⟩ <;> rcases holds_upd h2 with ⟨e2, e'⟩ | ⟨_, h2'⟩
    · rw [e1, e2]
    · exact absurd h2' (fresh c2)
    · exact absurd (e' ▸ h1') (fresh c1)
    · exact h.uniq c1 c2 t h1' h2'
  case got_fresh =>
    rcases upd_cases (P := (· = CS.got t)) ht with ⟨_, e⟩ | ⟨_, h'⟩
    · cases e
      refine ⟨fun hm => ?_, fun hn hcur => ?_, fun hm => Nat.lt_irrefl _ (h.ans_lt _ hm)⟩
      · obtain ⟨⟨c0, hc0⟩, _⟩ := h.q_wait _ hm
        exact fresh c0 (holds_waiting hc0)
      · obtain ⟨⟨c0, hc0⟩, _, _⟩ := h.serving hn
        exact fresh c0 (by rw [hc0]; exact hcur)
    · exact h.got_fresh c' t h'
  case retd =>
    rcases holds_upd ht with ⟨_, rfl⟩ | ⟨_, h'⟩
    · exact Nat.lt_irrefl _ (h.ret_lt c1 _ hm)
    · exact h.retd c1 c2 t hm h'

theorem send_step (h : TokInv s) (c t : Nat) (eg : s.cl c = .got t) :
    TokInv { s with cl := upd s.cl c (.waiting t), queue := s.queue ++ [t], log := .sent c t :: s.log } := by
  -- `c` had the same token in hand before
  have hold' : ∀ c' u, holdsTok (upd s.cl c (.waiting t) c') u → holdsTok (s.cl c') u := fun c' u hu =>
    (holds_upd hu).elim (fun x => by rw [x.1, eg]; exact x.2) (·.2)
  have keep : ∀ c0 u, s.cl c0 = .waiting u → upd s.cl c (.waiting t) c0 = .waiting u :=
    fun c0 u => upd_keeps _ (by rw [eg]; nofun)
  have g := h.got_fresh c t eg
  have mem_ret : ∀ c' u, Ev.ret c' u ∈ Ev.sent c t :: s.log → Ev.ret c' u ∈ s.log := fun c' u hm =>
    (List.mem_cons.mp hm).resolve_left nofun
  refine { h with
    lt := fun c' u hu => h.lt c' u (hold' c' u hu)
    uniq := fun c1 c2 u h1 h2 => h.uniq c1 c2 u (hold' c1 u h1) (hold' c2 u h2)
    q_wait := fun u hu => ?q_wait
    q_nodup := ?q_nodup
    serving := fun hn => ?serving
    got_fresh := fun c' u hu => ?got_fresh
    ret_lt := fun c' u hm => h.ret_lt c' u (mem_ret c' u hm)
    retd := fun c1 c2 u hm hu => h.retd c1 c2 u (mem_ret c1 u hm) (hold' c2 u hu)
    sent := fun c' u hu => ?sent }
  case q_wait =>
    rcases List.mem_append.mp hu with x | x
    · obtain ⟨⟨c0, hc0⟩, hna⟩ := h.q_wait u x
      exact ⟨⟨c0, keep c0 u hc0⟩, hna⟩
    · cases List.mem_singleton.mp x
      exact ⟨⟨c, upd_same _ _ _⟩, g.2.2⟩
  case q_nodup =>
    show (s.queue ++ [t]).Nodup
    rw [List.nodup_append]
    refine ⟨h.q_nodup, List.nodup_cons.mpr ⟨List.not_mem_nil, List.nodup_nil⟩, fun a ha b hb x => ?_⟩
    cases List.mem_singleton.mp hb
    exact g.1 (x ▸ ha)
  case serving =>
    obtain ⟨⟨c0, hc0⟩, hna, hnq⟩ := h.serving hn
    refine ⟨⟨c0, keep c0 _ hc0⟩, hna, fun hm => ?_⟩
    rcases List.mem_append.mp hm with x | x
    · exact hnq x
    · exact g.2.1 hn (List.mem_singleton.mp x)
  case got_fresh =>
    obtain ⟨x, hu'⟩ := (upd_cases (P := (· = CS.got u)) hu).resolve_left fun y => nomatch y.2
    have g' := h.got_fresh c' u hu'
    refine ⟨fun hm => ?_, g'.2.1, g'.2.2⟩
    rcases List.mem_append.mp hm with y | y
    · exact g'.1 y
    · cases List.mem_singleton.mp y
      exact x (h.uniq c' c t (holds_got hu') (holds_got eg))
  case sent =>
    rcases upd_cases (P := (· = CS.waiting u)) hu with ⟨rfl, e⟩ | ⟨_, hu'⟩
    · cases e; exact List.mem_cons_self
    · exact List.mem_cons_of_mem _ (h.sent c' u hu')

theorem ret_step (h : TokInv s) (c t : Nat) (ew : s.cl c = .waiting t) (ha : t ∈ s.answered) :
    TokInv { s with cl := upd s.cl c .idle, log := .ret c t :: s.log } := by
  -- nothing is said of an idle caller: whoever the invariant speaks of after the step is not `c`
  have back : ∀ {P : CS → Prop} {c'}, ¬ P .idle → P (upd s.cl c .idle c') → c' ≠ c ∧ P (s.cl c') :=
    fun hP hu => (upd_cases hu).resolve_left fun x => hP x.2
  have keep : ∀ c0 u, s.cl c0 = .waiting u → u ∉ s.answered → upd s.cl c .idle c0 = .waiting u :=
    fun c0 u hc0 hna => upd_keeps _ (by rw [ew]; exact fun x => hna (CS.waiting.inj x ▸ ha)) hc0
  refine { h with
    lt := fun c' u hu => h.lt c' u (back (P := (holdsTok · u)) id hu).2
    uniq := fun c1 c2 u h1 h2 => h.uniq c1 c2 u (back (P := (holdsTok · u)) id h1).2 (back (P := (holdsTok · u)) id h2).2
    q_wait := fun u hu => ?q_wait
    serving := fun hn => ?serving
    got_fresh := fun c' u hu => h.got_fresh c' u (back (P := (· = CS.got u)) nofun hu).2
    ret_lt := fun c' u hm => ?ret_lt
    retd := fun c1 c2 u hm hu => ?retd
    sent := fun c' u hu => List.mem_cons_of_mem _ (h.sent c' u (back (P := (· = CS.waiting u)) nofun hu).2) }
  case q_wait =>
    obtain ⟨⟨c0, hc0⟩, hna⟩ := h.q_wait u hu
    exact ⟨⟨c0, keep c0 u hc0 hna⟩, hna⟩
  case serving =>
    obtain ⟨⟨c0, hc0⟩, hna, hnq⟩ := h.serving hn
    exact ⟨⟨c0, keep c0 _ hc0 hna⟩, hna, hnq⟩
  case ret_lt =>
    rcases List.mem_cons.mp hm with x | x
    · cases x; exact h.lt c t (holds_waiting ew)
    · exact h.ret_lt c' u x
  case retd =>
    obtain ⟨hne, hu'⟩ := back (P := (holdsTok · u)) id hu
    rcases List.mem_cons.mp hm with x | x
    · cases x
      exact hne (h.uniq c2 c t hu' (holds_waiting ew))
    · exact h.retd c1 c2 u x hu'

theorem caller_step (hc : cfg.WF = true) (h : TokInv s) (c : Nat) (a : Act) :
    TokInv (stepCaller cfg s c a) := by
  obtain ⟨_, _, _, _, _, hcw⟩ := wf_parts hc
  rcases stepCaller_cases cfg s c a with e | ⟨ei, e⟩ | ⟨t, eg, e⟩ | ⟨t, ew, hen, e⟩ <;> rw [e]
  · exact h
  · exact tok_step h c ei
  · exact send_step h c t eg
  · exact ret_step h c t ew (hen.resolve_right (by rw [hcw]; nofun))

theorem step_inv (hc : cfg.WF = true) (h : TokInv s) (a : Act) : TokInv (step cfg s a) :=
  step_cases (reader_step h) (rl_step hc h) (caller_step hc h) a

theorem run_inv (hc : cfg.WF = true) (s : St) (h : TokInv s) (σ : List Act) : TokInv (run cfg s σ) :=
  run_induction (P := TokInv) (fun _ a h => step_inv hc h a) s h σ

theorem tokInv_run (hc : cfg.WF = true) (n : Nat) (σ : List Act) : TokInv (run cfg (init n) σ) :=
  run_inv hc _ (init_inv n) σ

/-! ### What the invariant gives -/

theorem okLog_suffix {a b : List Ev} (h : OkLog (a ++ b)) : OkLog b := by
  induction a with
  | nil => exact h
  | cons e a ih =>
    cases e with
    | wr t => exact ih h.2
    | sent c t => exact ih h
    | ret c t => exact ih h

/-- A step that changes the entry is logged as a write of the pass being served, whose caller is waiting. -/
theorem changes_inside_gen (h : TokInv s) (a : Act)
    (hch : (step cfg s a).words ≠ s.words ∨ (step cfg s a).rid ≠ s.rid) :
    (step cfg s a).log = .wr s.cur :: s.log ∧ ∃ c, s.cl c = .waiting s.cur := by
  obtain ⟨w, rest, e, _, hl⟩ := change_is_write cfg s a hch
  exact ⟨hl, (h.serving (h.notify_of_writing (by rw [e]; exact List.cons_ne_nil _ _))).1⟩

/-- No write of pass `t` is logged after a return with token `t`. -/
theorem returns_after_writes_gen {newer older : List Ev} {c t : Nat} (h : OkLog (newer ++ .ret c t :: older)) :
    .wr t ∉ newer := by
  intro hm
  obtain ⟨n1, n2, e⟩ := List.append_of_mem hm
  rw [e, List.append_assoc] at h
  exact (okLog_suffix h).1.2 c (List.mem_append_right _ List.mem_cons_self)

/-- Once the answer for the pass being served is posted, its update is over. -/
theorem return_needs_finished_pass_gen (h : TokInv s) (ha : s.cur ∈ s.answered) :
    s.wrest = [] ∧ .update ∉ s.rrest := by
  have nn : RStep.notify ∉ s.rrest := fun hn => (h.serving hn).2.1 ha
  refine ⟨Decidable.byContradiction fun hne => nn (h.notify_of_writing hne), fun hu => ?_⟩
  have harm := h.arm
  generalize s.rrest = l at hu nn harm
  cases l with
  | nil => cases hu
  | cons x xs =>
    cases x with
    | update => exact nn (List.mem_cons_of_mem _ (notify_mem_of_arm harm))
    | notify => exact nn List.mem_cons_self

end AmVerif.Lemmas.IsoTok
