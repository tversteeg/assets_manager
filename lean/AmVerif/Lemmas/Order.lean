import AmVerif.Lemmas.Entry
/-!
# The order in which the reloader takes registrations and events

`handle_events` drains the channel of `AddAsset` / `Clear` messages BEFORE it filters the events
against the dependency graph, so a registration that is already in the channel when an event
arrives is in the graph when the event is looked up.

* `drain_get_mono`, `drain_registers` — `Graph.insertAsset` never removes a node and creates the nodes of the asset and of
  its dependencies (`isSome_insertAsset`); so does a whole channel (`drain` = `processMsgs`), whatever the other messages are;
* `OutExt`, `eval_outExt` — an evaluation only appends to the channel;
* `eval_load_miss_out`, `step_load_out` — the channel after a `load` of an absent key of a reloadable type that
  returned (the API operation: a handle): what it was, what nested loads sent, then `AddAsset key deps`.
-/
namespace AmVerif.Model
open AmVerif.Gen AmVerif.Lemmas.TopoGraph

/-! ## A whole channel only adds nodes, as `Graph.insertAsset` does (`isSome_insertAsset`) -/

theorem drain_cons (m : Msg) (ms : List Msg) (r : RSt) :
    drain (m :: ms) r = drain ms (drain [m] r) := rfl

theorem drain_append (ms ms' : List Msg) (r : RSt) : drain (ms ++ ms') r = drain ms' (drain ms r) := by
  unfold drain; rw [List.foldl_append]

/-- draining messages never removes a node of the graph -/
theorem drain_get_mono (msgs : List Msg) (r : RSt) (d : Dep) (h : (r.graph.get d).isSome) :
    ((drain msgs r).graph.get d).isSome :=
  drain_inv (fun r => (r.graph.get d).isSome) (fun r key deps h => (isSome_insertAsset r.graph (.asset key) deps d).mpr (Or.inl h))
    (fun _ h => h) msgs r h

/-- **A pending registration is in the graph after the drain** — the asset and each of its
dependencies — whatever else is in the channel before or after it (`Clear`, other registrations, a
later registration of the same key with other dependencies). -/
theorem drain_registers (msgs : List Msg) (key : Key) (deps : List Dep) (r : RSt)
    (h : Msg.addAsset key deps ∈ msgs) (e : Dep) (he : e ∈ deps ∨ e = .asset key) : ((drain msgs r).graph.get e).isSome := by
  obtain ⟨before, after, rfl⟩ := List.append_of_mem h
  rw [drain_append, drain_cons]
  exact drain_get_mono after _ e ((isSome_insertAsset _ (.asset key) deps e).mpr (Or.inr he))

/-- an event whose entry is registered by a pending message is taken (`takeEvents` = the state
`handle_events` has after the drain and the filter, in either mode) -/
theorem takeEvents_registered (s : St) (r : RSt) (evs : List Dep) (key : Key) (deps : List Dep) (e : Dep)
    (hm : Msg.addAsset key deps ∈ s.out) (he : e ∈ deps ∨ e = .asset key) (hev : e ∈ evs) :
    e ∈ (takeEvents s r evs).2.toReload :=
  mem_keepEvents _ evs _ e hev (Option.isSome_iff_ne_none.1 (drain_registers s.out key deps r hm e he))

/-! ## An evaluation only appends to the channel -/

/-- `t`'s channel is `s`'s channel with messages appended -/
def OutExt (s t : St) : Prop := s.out <+: t.out

theorem OutExt.of_eq {s t : St} (h : t.out = s.out) : OutExt s t := ⟨[], (List.append_nil _).trans h.symm⟩

theorem OutExt.evalRel (env : Env) (Q) : EvalRel env Q OutExt where
  refl _ := .of_eq rfl
  trans := List.IsPrefix.trans
  record s on d := .of_eq (St.record_out s on d)
  ios _ := .of_eq rfl
  loads _ := .of_eq rfl
  send s m := List.prefix_append s.out [m]
  handOut _ _ := .of_eq rfl
  addLoad s key _ _ _ := .of_eq (s.add_out key _ _)
  addAny s key _ _ _ _ := .of_eq (s.add_out key _ _)
  frame _ _ _ hb := hb

/-- **An evaluation never takes a message out of the channel, nor reorders it: it appends.** -/
theorem eval_outExt (env : Env) (f : Nat) (s : St) (p : Prog) : OutExt s (eval env f s p).1 :=
  (OutExt.evalRel env _).eval_all f s p

/-! ## The channel after an API `load` that returned a handle -/

/-- A `load` of a key that is NOT cached, of a reloadable type in a cache with a reloader, that returned normally:
the channel is what it was, then what nested loads sent, then — last — the registration of `key` itself. -/
theorem eval_load_miss_out (env : Env) (f : Nat) (s : St) (key : Key) (w : Val)
    (hb : recordsAsset (env.types key.ty).hot env.hasReloader = true) (hl : s.lookup key = none)
    (hok : (eval env f s (.load key Prog.ret')).2 = .ok w) :
    ∃ nested deps, (eval env f s (.load key Prog.ret')).1.out = s.out ++ nested ++ [.addAsset key deps] := by
  cases f with
  | zero => cases hok
  | succ f =>
    rw [eval_load_miss env f s key _ hb hl] at hok ⊢
    obtain ⟨new, hnew⟩ := eval_outExt env f (s.record true (.asset key)).enter ((env.types key.ty).prog key.id)
    rw [St.enter_out, St.record_out] at hnew
    generalize eval env f (s.record true (.asset key)).enter ((env.types key.ty).prog key.id) = x at hok hnew ⊢
    obtain ⟨sb, o⟩ := x
    cases o with
    | ok v => exact ⟨new, sb.top, by rw [eval_ret'_fst, leaveOk_out, ← hnew]⟩
    -- the continuation `ret'` of an error is `.fail` (`.diverged` without fuel), never `.ok`
    | err e => cases f <;> cases hok
    | _ => cases hok

/-- the same for the API operation: `step … (.load key)` returned a handle, so its evaluation (from `s` with the stack
emptied: channel and look-ups are those of `s`) returned normally -/
theorem step_load_out (env : Env) (fuel : Nat) (s : St) (key : Key) (addr : Nat) (v : Val)
    (hb : recordsAsset (env.types key.ty).hot env.hasReloader = true) (hl : s.lookup key = none)
    (hres : (step env fuel s (.load key)).2 = .handle addr v) :
    ∃ nested deps, (step env fuel s (.load key)).1.out = s.out ++ nested ++ [.addAsset key deps] := by
  rw [step_load_snd] at hres
  rw [step_load_fst, evalTop_out]
  cases ho : (evalTop env fuel s (.load key Prog.ret')).2 with
  | ok w => exact eval_load_miss_out env fuel { s with recs := [] } key w hb hl ho
  | _ => rw [ho] at hres; cases hres

end AmVerif.Model
