import AmVerif.Lemmas.ReadSet
/-!
# Clean loading runs

* `hitRun_fuel`, `hitRun_down` — a tracked hit-only run that returns does not depend on the fuel.
* `cleanRun env fin f s p` — the evaluation `eval env f s p` is a **clean loading run** (relative to the
  cache `fin` it ends in): plain constructors and recorded look-ups on the path it takes (misses
  included, recursively), and neither of the two situations in which a load leaves an asset that is
  not settled: an absorbed failure, a `get_cached` probe of a key that is absent and gets cached
  before the load returns. (A lost keep-first insertion — a key loaded again while its own loader
  runs — needs no hypothesis: both registrations are then good, `clean_out`.)
  `cleanRun_succ` — with fuel left such a run is over, makes a `HitStep`, or is a `.load` that misses
  (`CleanMiss`).
* `clean_replay` — re-evaluating the body of a clean run in the final cache is a tracked hit-only
  run with the same value and the same record.
* `Registers P s t` — `t` is `s` after registrations that satisfy `P`, one for every entry `t` has and `s`
  has not; steps that do so compose (`Registers.trans`).
* `clean_out` / `clean_msgs` — a clean run registers what it caches, and every `AddAsset` message it
  sends is `MsgGood`: the asset is cached in the final cache, holds what re-evaluating its loader there
  returns, and the message carries exactly what that re-evaluation reads.
-/
namespace AmVerif.Model
open AmVerif.Gen

/-! ## A tracked hit-only run that returns does not depend on the fuel -/

theorem hitRun_fuel (env : Env) : ∀ (f F : Nat) (p : Prog) (s : St), f ≤ F →
    hitRun env f s p = true → (eval env f s p).2 ≠ .diverged →
    hitRun env F s p = true ∧ eval env F s p = eval env f s p := by
  intro f F p s hle hh
  induction f, s, p, hh using hitRun_induct generalizing F with
  | zero s p => intro hd; exact absurd rfl hd
  | done f s p o hd =>
    intro _
    obtain ⟨F', rfl⟩ : ∃ F', F = F' + 1 := ⟨F - 1, by omega⟩
    exact ⟨hd.hitRun env _ s, by rw [hd.eval, hd.eval]⟩
  | step f s p s' p' hst _ ih =>
    intro hd
    obtain ⟨F', rfl⟩ : ∃ F', F = F' + 1 := ⟨F - 1, by omega⟩
    rw [hst.eval] at hd ⊢
    rw [hst.hitRun, hst.eval]
    exact ih F' (by omega) hd

/-- a tracked hit-only run is one with less fuel too -/
theorem hitRun_down (env : Env) (f F : Nat) (p : Prog) (s : St) (hle : f ≤ F) (hh : hitRun env F s p = true) :
    hitRun env f s p = true := by
  induction F, s, p, hh using hitRun_induct generalizing f with
  | zero s p => rw [Nat.le_zero.mp hle]; rfl
  | done F s p o hd => exact hd.hitRun env f s
  | step F s p s' p' hst _ ih =>
    cases f with
    | zero => rfl
    | succ f => rw [hst.hitRun]; exact ih f (by omega)

/-! ## Clean loading runs -/

/-- `eval env f s p` is a **clean loading run** relative to the cache `fin` the whole load ends in.
(Mirrors `eval` clause by clause, nested loader bodies included.) On the path the evaluation takes:
* plain constructors only, every look-up and read recorded (as for `hitRun`);
* **no absorbed failure**: when a nested load fails, the loader that asked for it does not go on to
  return a value;
* **no probe of a key that gets filled**: a `get_cached` that finds nothing is for a key that is
  still absent in `fin`. -/
def cleanRun (env : Env) (fin : St) : Nat → St → Prog → Bool
  | 0, _, _ => true
  | _+1, _, .ret _ => true
  | _+1, _, .fail _ => true
  | _+1, _, .panic => true
  | f+1, s, .read id ext k =>
      recordsRead env.hasReloader &&
      cleanRun env fin f { s.record true (.file id ext) with ios := (s.record true (.file id ext)).ios + 1 }
        (k (env.read (s.record true (.file id ext)).ios id ext))
  | f+1, s, .readDir id k =>
      recordsRead env.hasReloader &&
      cleanRun env fin f { s.record true (.dir id) with ios := (s.record true (.dir id)).ios + 1 }
        (k (env.readDir (s.record true (.dir id)).ios id))
  | f+1, s, .getCached key k =>
      recordsAsset (env.types key.ty).hot env.hasReloader &&
      ((s.lookup key).isSome || (fin.lookup key).isNone) &&
      cleanRun env fin f (s.record true (.asset key)) (k ((s.lookup key).map (·.val)))
  | f+1, s, .tick k => cleanRun env fin f { s with loads := s.loads + 1 } (k (env.loaderFault s.loads))
  | f+1, s, .load key k =>
      recordsAsset (env.types key.ty).hot env.hasReloader &&
      (match s.lookup key with
       | some c => cleanRun env fin f (s.record true (.asset key)) (k (.ok c.val))
       | none =>
         cleanRun env fin f (s.record true (.asset key)).enter ((env.types key.ty).prog key.id) &&
         (match eval env f (s.record true (.asset key)).enter ((env.types key.ty).prog key.id) with
          | (sb, .ok v) =>
            cleanRun env fin f (St.leaveOk env key v (s.record true (.asset key)).recs sb)
              (k (.ok (St.survivor env key v sb).val))
          | (sb, .err e) =>
            cleanRun env fin f (St.leaveErr (s.record true (.asset key)).recs sb) (k (.error (.wrapped key.id e))) &&
            (match (eval env f (St.leaveErr (s.record true (.asset key)).recs sb) (k (.error (.wrapped key.id e)))).2 with
             | .ok _ => false
             | _ => true)
          | _ => true))
  | _+1, _, .noRecord _ _ => false
  | _+1, _, .onThread _ _ => false
  | _+1, _, .tryCatch _ _ => false
  | _+1, _, .loadOwned _ _ => false
  | _+1, _, .getOrInsert _ _ _ => false

/-- A clean `.load key k` that misses: the loader body runs clean from the state with a fresh frame;
when it returns the rest runs clean from `leaveOk`; when it fails the rest runs clean from `leaveErr`
and does not return a value (no absorbed failure). -/
structure CleanMiss (env : Env) (fin : St) (f : Nat) (s : St) (key : Key) (k : Except LErr Val → Prog) : Prop where
  hot : recordsAsset (env.types key.ty).hot env.hasReloader = true
  absent : s.lookup key = none
  body : cleanRun env fin f (s.record true (.asset key)).enter ((env.types key.ty).prog key.id) = true
  ok : ∀ sb v, eval env f (s.record true (.asset key)).enter ((env.types key.ty).prog key.id) = (sb, .ok v) →
    cleanRun env fin f (St.leaveOk env key v (s.record true (.asset key)).recs sb)
      (k (.ok (St.survivor env key v sb).val)) = true
  err : ∀ sb e, eval env f (s.record true (.asset key)).enter ((env.types key.ty).prog key.id) = (sb, .err e) →
    cleanRun env fin f (St.leaveErr (s.record true (.asset key)).recs sb) (k (.error (.wrapped key.id e))) = true ∧
    ∀ v, (eval env f (St.leaveErr (s.record true (.asset key)).recs sb) (k (.error (.wrapped key.id e)))).2 ≠ .ok v

/-- a clean run with fuel left is over, or makes a step of a tracked hit-only run (when it looks up a
key and finds nothing — a `get_cached` —, the key is still absent in `fin`) and runs clean from there, or
is a `.load` that misses -/
theorem cleanRun_succ {env : Env} {fin : St} {f : Nat} {s : St} {p : Prog} (h : cleanRun env fin (f + 1) s p = true) :
    (∃ o, p.Done o) ∨
    (∃ s' p', HitStep env s p s' p' ∧ cleanRun env fin f s' p' = true ∧
      ∀ y, p.dep = some (.asset y) → s.lookup y = none → fin.lookup y = none) ∨
    ∃ key k, p = .load key k ∧ CleanMiss env fin f s key k := by
  cases p with
  | ret v => exact .inl ⟨_, .ret v⟩
  | fail e => exact .inl ⟨_, .fail e⟩
  | panic => exact .inl ⟨_, .panic⟩
  | read id ext k =>
    unfold cleanRun at h
    obtain ⟨hb, h⟩ := Bool.and_eq_true_iff.mp h
    exact .inr (.inl ⟨_, _, .read id ext k hb, h, fun _ e => nomatch e⟩)
  | readDir id k =>
    unfold cleanRun at h
    obtain ⟨hb, h⟩ := Bool.and_eq_true_iff.mp h
    exact .inr (.inl ⟨_, _, .readDir id k hb, h, fun _ e => nomatch e⟩)
  | getCached key k =>
    unfold cleanRun at h
    obtain ⟨hb, h⟩ := Bool.and_eq_true_iff.mp h
    obtain ⟨hb, hp⟩ := Bool.and_eq_true_iff.mp hb
    refine .inr (.inl ⟨_, _, .getCached key k hb, h, fun y e hl => ?_⟩)
    cases e
    rw [hl] at hp
    exact Option.isNone_iff_eq_none.mp hp
  | tick k => exact .inr (.inl ⟨_, _, .tick k, h, fun _ e => nomatch e⟩)
  | load key k =>
    unfold cleanRun at h
    obtain ⟨hb, h⟩ := Bool.and_eq_true_iff.mp h
    cases hl : s.lookup key with
    | some c =>
      rw [hl] at h
      exact .inr (.inl ⟨_, _, .load key k c hb hl, h, fun y e hn => by cases e; rw [hl] at hn; cases hn⟩)
    | none =>
      rw [hl] at h
      obtain ⟨hbody, h⟩ := Bool.and_eq_true_iff.mp h
      refine .inr (.inr ⟨key, k, rfl, hb, hl, hbody, fun sb v e => ?_, fun sb e' e => ?_⟩)
      · rw [e] at h; exact h
      · rw [e] at h
        obtain ⟨h1, h2⟩ := Bool.and_eq_true_iff.mp h
        refine ⟨h1, fun v hv => ?_⟩
        rw [hv] at h2
        cases h2
  | noRecord body k => cases h
  | onThread body k => cases h
  | tryCatch body k => cases h
  | loadOwned key k => cases h
  | getOrInsert key v k => cases h

/-! ## Replaying the body of a clean run in the final cache -/

/-- **Replay.** A clean run that returns `v`, re-evaluated in (a state with the map of) the cache
the load ended in, is a tracked hit-only run with the same value and the same record: every asset it
loaded is cached there (keep-first), every key it probed in vain is still absent. -/
theorem clean_replay {env : Env} (hS : env.Steady) {fin0 fin : St} (hfin : ∀ k, fin0.lookup k = none → fin.lookup k = none) :
    ∀ (f : Nat) (p : Prog) (s : St) (ds : List Dep) (rs : List (Option (List Dep))) (v : Val),
    s.recs = some ds :: rs → cleanRun env fin0 f s p = true → (eval env f s p).2 = .ok v →
    (eval env f s p).1.Le fin →
    ∀ (t : St) (rt : List (Option (List Dep))), (∀ k, t.lookup k = fin.lookup k) → t.recs = some ds :: rt →
      hitRun env f t p = true ∧ (eval env f t p).2 = .ok v ∧ (eval env f t p).1.top = (eval env f s p).1.top := by
  intro f
  induction f with
  | zero => intro p s ds rs v _ _ ho; cases ho
  | succ f ih =>
    intro p s ds rs v hs hc ho hle t rt ht htr
    have hsfin : s.Le fin := (eval_mono env (f + 1) s p).trans hle
    rcases cleanRun_succ hc with ⟨o, hd⟩ | ⟨s', p', hst, hc', hprobe⟩ | ⟨key, k, rfl, hm⟩
    · rw [hd.eval] at ho ⊢
      rw [hd.eval]
      exact ⟨hd.hitRun env _ t, ho, (St.top_of_recs htr).trans (St.top_of_recs hs).symm⟩
    · -- `t` has the cache the run ends in: it answers the look-up of the step as `s` did
      have hag : ∀ d, p.dep = some d → AgreeOn env env s t d := fun d hd =>
        agreeOn_same_env fun y e => by
          rw [ht y]
          cases hl : s.lookup y with
          | some c => exact hsfin y c hl
          | none => exact hfin y (hprobe y (e ▸ hd) hl)
      obtain ⟨t', ds', htst, es, et⟩ := hst.agree hS hS (SameLoaders.refl hS) hs htr hag
      rw [hst.eval] at ho hle ⊢
      rw [htst.eval, htst.hitRun]
      exact ih p' s' ds' rs v es hc' ho hle t' rt (fun k => (St.lookup_congr htst.keeps.1 k).trans (ht k)) et
    · cases hbody : eval env f (s.record true (.asset key)).enter ((env.types key.ty).prog key.id) with
      | mk sb ob =>
        cases ob with
        | ok v' =>
          rw [eval_load_miss_ok env f s key k hm.hot hm.absent hbody] at ho hle ⊢
          -- the miss of `s` is a hit in `t`: the final cache holds the surviving entry
          have htl : t.lookup key = some (St.survivor env key v' sb) :=
            (ht key).trans (((eval_mono env f _ _).trans hle) key _ (leaveOk_lookup_self env key v' _ sb))
          have htst : HitStep env t (.load key k) _ _ := .load key k _ hm.hot htl
          rw [htst.eval, htst.hitRun]
          exact ih _ _ _ _ v ((leaveOk_recs env key v' _ sb).trans (St.record_recs hs _)) (hm.ok sb v' hbody) ho hle _ rt
            (fun k => (St.record_lookup t true _ k).trans (ht k)) (St.record_recs htr _)
        | err e =>
          rw [eval_load_miss env f s key k hm.hot hm.absent, hbody] at ho
          exact absurd ho ((hm.err sb e hbody).2 v)
        | _ =>
          rw [eval_load_miss env f s key k hm.hot hm.absent, hbody] at ho
          cases ho

/-! ## The registrations of a clean run -/

/-- The registration `AddAsset k D` is **good** in the cache `fin`: `k` is cached there, re-evaluating
its loader there is a tracked hit-only run that returns the cached value and records exactly `D`. -/
def MsgGood (env : Env) (fuel : Nat) (fin : St) (k : Key) (D : List Dep) : Prop :=
  ∃ c, fin.lookup k = some c ∧ reloadHit env fuel fin k = true ∧ reloadOut env fuel fin k = .ok c.val ∧
    reloadDeps env fuel fin k = D

/-- what a good registration says of the cell cached under its key -/
theorem MsgGood.cell {env : Env} {fuel : Nat} {fin : St} {k : Key} {D : List Dep} (h : MsgGood env fuel fin k D)
    {c : Cell} (hc : fin.lookup k = some c) :
    reloadHit env fuel fin k = true ∧ reloadOut env fuel fin k = .ok c.val ∧ reloadDeps env fuel fin k = D := by
  obtain ⟨c0, hc0, m⟩ := h
  obtain rfl : c0 = c := Option.some.inj (hc0.symm.trans hc)
  exact m

/-- a good registration stays good in every cache that holds the same under its key and under the keys it lists -/
theorem MsgGood.keep {env : Env} (hS : env.Steady) {fuel : Nat} {s t : St} {k : Key} {D : List Dep}
    (h : MsgGood env fuel s k D) (hk : t.lookup k = s.lookup k) (hsame : SameOn s t D) : MsgGood env fuel t k D := by
  obtain ⟨c, hc, m1, m2, m3⟩ := h
  obtain ⟨r1, r2, r3⟩ := reloadEval_sameOn hS m1 (m3 ▸ hsame)
  exact ⟨c, hk.trans hc, r1, r2.trans m2, r3.trans m3⟩

/-- re-evaluating, in the final cache and with the full fuel, a loader whose body ran clean and
returned `v` with record `sb.top`: a tracked hit-only run, the same value, the same record -/
theorem clean_body_replay {env : Env} (hS : env.Steady) {fuel : Nat} {fin0 fin : St}
    (hfin : ∀ k, fin0.lookup k = none → fin.lookup k = none) {f : Nat} (hf : f ≤ fuel)
    {s0 : St} {key : Key} {sb : St} {v : Val} {rs : List (Option (List Dep))}
    (hs0 : s0.recs = some [] :: rs)
    (hc : cleanRun env fin0 f s0 ((env.types key.ty).prog key.id) = true)
    (hbody : eval env f s0 ((env.types key.ty).prog key.id) = (sb, .ok v))
    (hle : sb.Le fin) :
    reloadHit env fuel fin key = true ∧ reloadOut env fuel fin key = .ok v ∧ reloadDeps env fuel fin key = sb.top := by
  have hrep := clean_replay hS hfin f _ s0 [] rs v hs0 hc (by rw [hbody]) (by rw [hbody]; exact hle)
    fin.fresh [] (fun _ => rfl) rfl
  rw [hbody] at hrep
  obtain ⟨r1, r2, r3⟩ := hrep
  obtain ⟨g1, g2⟩ := hitRun_fuel env f fuel _ fin.fresh hf r1 (by rw [r2]; exact fun h => by cases h)
  exact ⟨g1, (congrArg Prod.snd g2).trans r2, (congrArg (·.1.top) g2).trans r3⟩

/-- `t` is `s` after registrations `AddAsset k D` that all satisfy `P k D`, one for every entry that `t`
has and `s` has not -/
def Registers (P : Key → List Dep → Prop) (s t : St) : Prop :=
  ∃ new : List Msg, t.out = s.out ++ new ∧ (∀ m, m ∈ new → ∃ k D, m = .addAsset k D ∧ P k D) ∧
    ∀ k c, t.lookup k = some c → s.lookup k = some c ∨ ∃ D, Msg.addAsset k D ∈ new

namespace Registers
variable {P Q : Key → List Dep → Prop} {s t u : St}

theorem of_same (hout : t.out = s.out) (hlk : ∀ k, t.lookup k = s.lookup k) : Registers P s t :=
  ⟨[], hout.trans (List.append_nil _).symm, fun _ h => (nomatch h), fun k _ h => .inl ((hlk k).symm.trans h)⟩

/-- one registration, for the only key whose entry may have changed -/
theorem single {key : Key} {D : List Dep} (hout : t.out = s.out ++ [.addAsset key D])
    (hlk : ∀ k, k ≠ key → t.lookup k = s.lookup k) (h : P key D) : Registers P s t := by
  refine ⟨_, hout, fun m hm => ⟨key, D, List.mem_singleton.mp hm, h⟩, fun k c hc => ?_⟩
  by_cases hk : k = key
  · exact .inr ⟨D, hk ▸ List.mem_singleton.mpr rfl⟩
  · exact .inl ((hlk k hk).symm.trans hc)

theorem trans (h1 : Registers P s t) (h2 : Registers P t u) : Registers P s u := by
  obtain ⟨n1, o1, g1, c1⟩ := h1
  obtain ⟨n2, o2, g2, c2⟩ := h2
  refine ⟨n1 ++ n2, by rw [o2, o1, List.append_assoc], fun m hm => (List.mem_append.mp hm).elim (g1 m) (g2 m),
    fun k c hc => ?_⟩
  rcases c2 k c hc with h | ⟨D, h⟩
  · exact (c1 k c h).imp id fun ⟨D, h⟩ => ⟨D, List.mem_append_left _ h⟩
  · exact .inr ⟨D, List.mem_append_right _ h⟩

theorem mono (hPQ : ∀ k D, P k D → Q k D) (h : Registers P s t) : Registers Q s t := by
  obtain ⟨new, o, g, c⟩ := h
  exact ⟨new, o, fun m hm => let ⟨k, D, e, hp⟩ := g m hm; ⟨k, D, e, hPQ k D hp⟩, c⟩

/-- an entry of `t` was in `s` or is registered -/
theorem entry (h : Registers P s t) {k : Key} {c : Cell} (hc : t.lookup k = some c) :
    s.lookup k = some c ∨ ∃ D, P k D := by
  obtain ⟨_, _, g, hcell⟩ := h
  refine (hcell k c hc).imp id fun ⟨D, hm⟩ => ?_
  obtain ⟨_, _, e, hp⟩ := g _ hm
  cases e
  exact ⟨D, hp⟩

/-- a message in the channel of `t` was in that of `s` or is one of the registrations -/
theorem msg (h : Registers P s t) {m : Msg} (hm : m ∈ t.out) : m ∈ s.out ∨ ∃ k D, m = .addAsset k D ∧ P k D := by
  obtain ⟨new, o, g, _⟩ := h
  rw [o] at hm
  exact (List.mem_append.mp hm).imp id (g m)

end Registers

/-- **What a clean run adds to the channel and to the cache**: registrations that are all good in the
final cache `fin` (the asset is cached there, holds what re-evaluating its loader returns, the message
carries exactly what that re-evaluation reads), one for every key the run cached. -/
theorem clean_out {env : Env} (hS : env.Steady) (fuel : Nat) {fin0 fin : St}
    (hfin : ∀ k, fin0.lookup k = none → fin.lookup k = none) :
    ∀ (f : Nat) (p : Prog) (s : St), f ≤ fuel → cleanRun env fin0 f s p = true → (eval env f s p).1.Le fin →
    Registers (MsgGood env fuel fin) s (eval env f s p).1 := by
  intro f
  induction f with
  | zero => intro p s _ _ _; exact .of_same rfl (fun _ => rfl)
  | succ f ih =>
    intro p s hf hc hle
    have hf' : f ≤ fuel := by omega
    rcases cleanRun_succ hc with ⟨o, hd⟩ | ⟨s', p', hst, hc', _⟩ | ⟨key, k, rfl, hm⟩
    · rw [hd.eval]; exact .of_same rfl (fun _ => rfl)
    · rw [hst.eval] at hle ⊢
      exact (Registers.of_same hst.keeps.2.1 (St.lookup_congr hst.keeps.1)).trans (ih _ _ hf' hc' hle)
    · -- the loader body starts from `s` with a fresh frame
      have hpre : Registers (MsgGood env fuel fin) s (s.record true (.asset key)).enter :=
        .of_same (St.record_out s true _) (St.record_lookup s true _)
      have ihb := ih _ _ hf' hm.body
      cases hbody : eval env f (s.record true (.asset key)).enter ((env.types key.ty).prog key.id) with
      | mk sb ob =>
        rw [hbody] at ihb
        cases ob with
        | ok v' =>
          rw [eval_load_miss_ok env f s key k hm.hot hm.absent hbody] at hle ⊢
          have hle1 : (St.leaveOk env key v' (s.record true (.asset key)).recs sb).Le fin :=
            (eval_mono env f _ _).trans hle
          have hsb : sb.Le fin := (leaveOk_le env key v' _ sb).trans hle1
          have hB := hpre.trans (ihb hsb)
          obtain ⟨p1, p2, p3⟩ := clean_body_replay hS hfin hf' rfl hm.body hbody hsb
          have hfk : fin.lookup key = some (St.survivor env key v' sb) :=
            hle1 key _ (leaveOk_lookup_self env key v' _ sb)
          -- the surviving entry holds the value the body returned
          have hval : (St.survivor env key v' sb).val = v' := by
            cases hsk : sb.lookup key with
            | none => unfold St.survivor; rw [hsk]; rfl
            | some c0 =>
              -- the body cached `key` itself (the keep-first insertion is lost): that registration is good
              obtain ⟨_, hg⟩ := (hB.entry hsk).resolve_left (by rw [hm.absent]; exact nofun)
              exact Outcome.ok.inj ((hg.cell hfk).2.1.symm.trans p2)
          exact hB.trans ((Registers.single (leaveOk_out env key v' _ sb) (leaveOk_lookup_other env key v' _ sb)
            ⟨_, hfk, p1, by rw [p2, hval], p3⟩).trans (ih _ _ hf' (hm.ok sb v' hbody) hle))
        | err e =>
          rw [eval_load_miss env f s key k hm.hot hm.absent, hbody] at hle ⊢
          simp only [] at hle ⊢
          have hsb : sb.Le fin :=
            (St.Le.of_map_eq (leaveErr_map (s.record true (.asset key)).recs sb)).trans ((eval_mono env f _ _).trans hle)
          exact (hpre.trans (ihb hsb)).trans ((Registers.of_same (leaveErr_out _ sb)
            (St.lookup_congr (leaveErr_map _ sb))).trans (ih _ _ hf' (hm.err sb e hbody).1 hle))
        | _ =>
          rw [eval_load_miss env f s key k hm.hot hm.absent, hbody] at hle ⊢
          exact hpre.trans (ihb ((St.Le.of_map_eq rfl).trans hle))

/-- **Every registration of a clean run is good**: each `AddAsset` message the run adds to the channel
names an asset that is cached in the final cache `fin`, holds there what re-evaluating its loader
returns, and carries exactly what that re-evaluation reads. -/
theorem clean_msgs {env : Env} (hS : env.Steady) (fuel : Nat) {fin0 fin : St}
    (hfin : ∀ k, fin0.lookup k = none → fin.lookup k = none) :
    ∀ (f : Nat) (p : Prog) (s : St), f ≤ fuel → cleanRun env fin0 f s p = true → (eval env f s p).1.Le fin →
    ∀ m, m ∈ (eval env f s p).1.out → m ∈ s.out ∨ ∃ k D, m = .addAsset k D ∧ MsgGood env fuel fin k D :=
  fun f p s hf hc hle _ hm => (clean_out hS fuel hfin f p s hf hc hle).msg hm

end AmVerif.Model
