import AmVerif.Lemmas.Source
/-! Helper lemmas for C04: `register_dir` (a directory and all its ancestors, each listed once in
its parent), the invariant of the archive index it maintains, and what the invariant makes of the
listings once every file and directory of the tree is registered (`Inv.lst_perm`). -/
namespace AmVerif.Lemmas.Archive
open AmVerif.Model.Source AmVerif.Model.ArchiveSkel AmVerif.Lemmas.Source

/-! ## parent ids -/

/-- Everything before the last `.` (the empty id for an id without `.`). -/
def par (id : Id) : Id := joinDot (splitDot id).dropLast

theorem parentId_eq (id : Id) : parentId id = if id = [] then none else some (par id) := by
  unfold parentId idPop par
  cases id <;> simp

theorem par_length (id : Id) (h : id ≠ []) : (par id).length < id.length := by
  have hne := splitDot_ne_nil id
  -- an id is its parent id, a dot and its last segment (or has no dot, and the empty parent)
  have hid : joinDot ((splitDot id).dropLast ++ [(splitDot id).getLast hne]) = id := by
    rw [List.dropLast_concat_getLast, joinDot_splitDot]
  unfold par
  by_cases hd : (splitDot id).dropLast = []
  · rw [hd]; exact List.length_pos_iff.mpr h
  · rw [joinDot_snoc _ _ hd] at hid
    have := congrArg List.length hid
    rw [List.length_append, List.length_cons] at this
    omega

theorem par_dirId {q : List Name} (hq : ValidDir q) : par (dirId q) = dirId q.dropLast := by
  unfold par dirId
  rw [splitDot_joinDot q hq.ne (fun w hw => (hq.names w hw).2)]

theorem dirId_ne_nil {q : List Name} (hq : ValidDir q) : dirId q ≠ [] :=
  joinDot_ne_nil q hq.ne (fun c hc => (hq.names c hc).1)

theorem isDirId_iff (t : Tree) (p : Id) : isDirId t p = true ↔ p = [] ∨ ∃ q ∈ t.dirs, dirId q = p := by
  simp [isDirId, List.mem_map]

theorem isDirId_par (t : Tree) (hv : ValidTree t) (p : Id) (h : isDirId t p = true) (hne : p ≠ []) :
    isDirId t (par p) = true := by
  rcases (isDirId_iff t p).mp h with h | ⟨q, hq, rfl⟩
  · exact absurd h hne
  · rw [par_dirId (validTree_dir hv hq), isDirId_iff]
    rcases validTree_dirParent hv hq with h | h
    · left; rw [h]; rfl
    · right; exact ⟨_, h, rfl⟩

/-! ## the `dirs` association list -/

/-- The listing of `p` (empty if `p` is not registered). -/
def lst (d : DirMap) (p : Id) : List Entry := (dget d p).getD []
/-- `p` is registered. -/
def has (d : DirMap) (p : Id) : Prop := (dget d p).isSome = true

instance (d : DirMap) (p : Id) : Decidable (has d p) := by unfold has; infer_instance

theorem dget_dset (d : DirMap) (k : Id) (v : List Entry) (p : Id) :
    dget (dset d k v) p = if p = k then some v else dget d p := rfl

theorem has_dset (d : DirMap) (k : Id) (v : List Entry) (p : Id) : has (dset d k v) p ↔ p = k ∨ has d p := by
  unfold has; rw [dget_dset]; by_cases h : p = k <;> simp [h]

theorem lst_dset (d : DirMap) (k : Id) (v : List Entry) (p : Id) :
    lst (dset d k v) p = if p = k then v else lst d p := by
  unfold lst; rw [dget_dset]; by_cases h : p = k <;> simp [h]

theorem dget_of_has {d : DirMap} {p : Id} (h : has d p) : dget d p = some (lst d p) := by
  unfold has at h; unfold lst
  cases hd : dget d p with
  | none => rw [hd] at h; cases h
  | some v => rfl

theorem dget_of_not_has {d : DirMap} {p : Id} (h : ¬ has d p) : dget d p = none := by
  unfold has at h
  cases hd : dget d p with
  | none => rfl
  | some v => rw [hd] at h; exact absurd rfl h

theorem lst_of_not_has (d : DirMap) (p : Id) (h : ¬ has d p) : lst d p = [] := by
  rw [lst, dget_of_not_has h]; rfl

theorem has_of_mem_lst (d : DirMap) (p : Id) (e : Entry) (h : e ∈ lst d p) : has d p := by
  apply Decidable.byContradiction
  intro hn
  rw [lst_of_not_has d p hn] at h
  cases h

theorem lst_pushInto (d : DirMap) (k : Id) (e : Entry) (p : Id) :
    lst (pushInto d k e) p = if p = k then lst d k ++ [e] else lst d p := by
  unfold pushInto; rw [lst_dset]; rfl

/-! ### pushing an entry into the listing of a registered directory -/

theorem has_pushInto_iff {d : DirMap} {k : Id} (hk : has d k) (e : Entry) (p : Id) :
    has (pushInto d k e) p ↔ has d p := by
  unfold pushInto
  rw [has_dset]
  exact ⟨fun h => h.elim (fun h => h ▸ hk) id, Or.inr⟩

theorem mem_lst_pushInto (d : DirMap) (k : Id) (e x : Entry) (P : Id) :
    x ∈ lst (pushInto d k e) P ↔ x ∈ lst d P ∨ (P = k ∧ x = e) := by
  rw [lst_pushInto]
  by_cases hP : P = k
  · rw [if_pos hP, hP, List.mem_append, List.mem_singleton]
    exact or_congr_right ⟨fun h => ⟨rfl, h⟩, fun h => h.2⟩
  · rw [if_neg hP]
    exact (or_iff_left fun h => hP h.1).symm

theorem nodup_lst_pushInto {d : DirMap} {k : Id} {e : Entry} (hnd : ∀ P, (lst d P).Nodup) (hnew : e ∉ lst d k) (P : Id) :
    (lst (pushInto d k e) P).Nodup := by
  rw [lst_pushInto]
  by_cases hP : P = k
  · rw [if_pos hP]
    refine List.nodup_append.mpr ⟨hnd k, List.pairwise_singleton _ e, fun a ha b hb hab => hnew ?_⟩
    rwa [← List.mem_singleton.mp hb, ← hab]
  · rw [if_neg hP]; exact hnd P

theorem lst_dset_fresh {d : DirMap} {id : Id} (h : ¬ has d id) (P : Id) : lst (dset d id []) P = lst d P := by
  rw [lst_dset]
  by_cases hP : P = id
  · rw [if_pos hP, hP, lst_of_not_has d id h]
  · rw [if_neg hP]

/-! ## `register_dir` in direct form -/

def regDirF : Nat → DirMap → Id → DirMap
  | 0, d, _ => d
  | n + 1, d, id =>
    if has d id then d else
    if id = [] then dset d id [] else
    pushInto (regDirF n (dset d id []) (par id)) (par id) (.dir id)

theorem registerDirF_eq (n : Nat) (d : DirMap) (id : Id) :
    registerDirF registerDirSkel n d id = regDirF n d id := by
  induction n generalizing d id with
  | zero => rfl
  | succ n ih =>
    simp only [registerDirF, registerDirSkel, runDirToks, regDirF, parentId_eq, has]
    by_cases h : (dget d id).isSome
    · simp [h]
    · by_cases hid : id = []
      · subst hid; simp [h]
      · have := ih (dset d id []) (par id)
        unfold registerDirSkel at this
        simp [h, hid, this]

theorem regDir_eq (d : DirMap) (id : Id) : regDir d id = regDirF (id.length + 1) d id := by
  unfold regDir registerDir; exact registerDirF_eq _ _ _

/-- What one `register_dir(dirs, id)` does to the map, for a directory `id` of the tree:
`id` is registered afterwards; nothing is forgotten; only directories of the tree get registered;
listings only grow, and only by `Directory(y)` entries for newly registered `y`, pushed into the
listing of `y`'s parent; every newly registered directory other than the root is listed in its
(registered) parent; listings stay duplicate-free. -/
structure RegDirSpec (t : Tree) (d d' : DirMap) (id : Id) : Prop where
  target : has d' id
  mono : ∀ p, has d p → has d' p
  sound : ∀ p, has d' p → has d p ∨ isDirId t p = true
  keep : ∀ P e, e ∈ lst d P → e ∈ lst d' P
  fresh : ∀ P e, e ∈ lst d' P → e ∈ lst d P ∨ ∃ y, e = .dir y ∧ ¬ has d y ∧ has d' y ∧ y ≠ [] ∧ par y = P
  up : ∀ p, ¬ has d p → has d' p → p ≠ [] → has d' (par p) ∧ Entry.dir p ∈ lst d' (par p)
  nodup : (∀ P, (lst d P).Nodup) → (∀ P q, Entry.dir q ∈ lst d P → has d q) → ∀ P, (lst d' P).Nodup

theorem regDirF_spec (t : Tree) (hv : ValidTree t) : ∀ (n : Nat) (d : DirMap) (id : Id),
    id.length < n → isDirId t id = true → RegDirSpec t d (regDirF n d id) id := by
  intro n
  induction n with
  | zero => intro d id h; exact absurd h (Nat.not_lt_zero _)
  | succ n ih =>
    intro d id hlen hdir
    unfold regDirF
    rcases Decidable.em (has d id) with hhas | hnot
    · -- already registered: nothing happens
      rw [if_pos hhas]
      exact ⟨hhas, fun _ h => h, fun _ h => Or.inl h, fun _ _ h => h, fun _ _ h => Or.inl h,
        fun p h1 h2 => absurd h2 h1, fun h _ => h⟩
    · rw [if_neg hnot]
      have hlst1 := lst_dset_fresh hnot
      have hhas1 : ∀ p, has (dset d id []) p ↔ p = id ∨ has d p := fun p => has_dset _ _ _ _
      by_cases hid : id = []
      · -- the root: registered with an empty listing
        rw [if_pos hid]
        refine ⟨(hhas1 _).mpr (Or.inl rfl), fun p h => (hhas1 _).mpr (Or.inr h), ?_, ?_, ?_, ?_, ?_⟩
        · intro p h
          rcases (hhas1 p).mp h with h | h
          · exact Or.inr (h ▸ hdir)
          · exact Or.inl h
        · intro P e h; rwa [hlst1]
        · intro P e h; rw [hlst1] at h; exact Or.inl h
        · intro p h1 h2 h3
          exact absurd (((hhas1 p).mp h2).resolve_right h1 ▸ hid) h3
        · intro h _ P; rw [hlst1]; exact h P
      · -- a new directory below the root: `id` gets an empty listing, the parent is registered from there (`IH`,
        -- giving `d2`), and `Directory(id)` is pushed into the parent's listing
        rw [if_neg hid]
        have IH := ih (dset d id []) (par id) (Nat.lt_of_lt_of_le (par_length id hid) (Nat.le_of_lt_succ hlen))
          (isDirId_par t hv id hdir hid)
        generalize regDirF n (dset d id []) (par id) = d2 at IH
        have hhas' := has_pushInto_iff IH.target (.dir id)
        have hmem' := mem_lst_pushInto d2 (par id) (.dir id)
        have hid2 : has d2 id := IH.mono id ((hhas1 id).mpr (Or.inl rfl))
        refine ⟨(hhas' id).mpr hid2, ?_, ?_, ?_, ?_, ?_, ?_⟩
        · intro p h; exact (hhas' p).mpr (IH.mono p ((hhas1 p).mpr (Or.inr h)))
        · -- `sound`: registered before, or `id` itself, or registered by the recursive call
          intro p h
          rcases IH.sound p ((hhas' p).mp h) with h1 | h1
          · rcases (hhas1 p).mp h1 with h2 | h2
            · exact Or.inr (h2 ▸ hdir)
            · exact Or.inl h2
          · exact Or.inr h1
        · intro P e h
          exact (hmem' e P).mpr (Or.inl (IH.keep P e (by rwa [hlst1])))
        · -- `fresh`: a new entry came with the recursive call (what that registered is new for `d` too), or is the
          -- `Directory(id)` just pushed
          intro P e h
          rcases (hmem' e P).mp h with h | ⟨hP, he⟩
          · rcases IH.fresh P e h with h1 | ⟨y, hy1, hy2, hy3, hy4, hy5⟩
            · left; rwa [hlst1] at h1
            · exact Or.inr ⟨y, hy1, fun hh => hy2 ((hhas1 y).mpr (Or.inr hh)), (hhas' y).mpr hy3, hy4, hy5⟩
          · exact Or.inr ⟨id, he, hnot, (hhas' id).mpr hid2, hid, hP.symm⟩
        · -- `up`: `id` is listed by the push, every other new directory by the recursive call
          intro p h1 h2 h3
          by_cases hp : p = id
          · rw [hp]
            exact ⟨(hhas' _).mpr IH.target, (hmem' _ _).mpr (Or.inr ⟨rfl, rfl⟩)⟩
          · obtain ⟨ha, hb⟩ := IH.up p (fun hh => ((hhas1 p).mp hh).elim hp h1) ((hhas' p).mp h2) h3
            exact ⟨(hhas' _).mpr ha, (hmem' _ _).mpr (Or.inl hb)⟩
        · -- `nodup`: the push is the only change after the recursive call
          intro hnd hok
          apply nodup_lst_pushInto (IH.nodup (fun P => by rw [hlst1]; exact hnd P)
            (fun P q h => (hhas1 q).mpr (Or.inr (hok P q (by rwa [hlst1] at h)))))
          -- `id` was not registered, so nothing listed it yet
          intro ha
          rcases IH.fresh _ _ ha with h1 | ⟨y, hy1, hy2, _⟩
          · rw [hlst1] at h1; exact hnot (hok _ _ h1)
          · cases hy1; exact hy2 ((hhas1 id).mpr (Or.inl rfl))

theorem regDir_spec (t : Tree) (hv : ValidTree t) (d : DirMap) (id : Id) (h : isDirId t id = true) :
    RegDirSpec t d (regDir d id) id := by
  rw [regDir_eq]; exact regDirF_spec t hv _ d id (Nat.lt_succ_self _) h

/-! ## the invariant of the archive index -/

/-- The `dirs` map after the registrations `L` (all of them entries of the tree `t`): the root
is registered; only directories of the tree are; a registered directory is listed in its
(registered) parent; a listed directory is registered and listed in *its* parent; a listed file
was registered with that parent; no listing has duplicates; every registered file is listed in
its directory and every registered directory is known. -/
structure Inv (t : Tree) (L : List Reg) (d : DirMap) : Prop where
  root : has d []
  sound : ∀ p, has d p → isDirId t p = true
  up : ∀ p, has d p → p ≠ [] → has d (par p) ∧ Entry.dir p ∈ lst d (par p)
  dirOk : ∀ P q, Entry.dir q ∈ lst d P → q ≠ [] ∧ par q = P ∧ has d q
  fileOk : ∀ P id e, Entry.file id e ∈ lst d P → ∃ r ∈ L, r.parent = P ∧ r.id = id ∧ ∃ b, r.file = some (e, b)
  nodup : ∀ P, (lst d P).Nodup
  fileIn : ∀ r ∈ L, ∀ e b, r.file = some (e, b) → Entry.file r.id e ∈ lst d r.parent
  dirIn : ∀ r ∈ L, r.file = none → has d r.id

theorem inv_regDir {t : Tree} (hv : ValidTree t) {L : List Reg} {d : DirMap} (hI : Inv t L d) (id : Id)
    (hid : isDirId t id = true) : Inv t L (regDir d id) ∧ has (regDir d id) id := by
  have S := regDir_spec t hv d id hid
  refine ⟨⟨S.mono _ hI.root, ?_, ?_, ?_, ?_, ?_, ?_, ?_⟩, S.target⟩
  · intro p h
    rcases S.sound p h with h | h
    · exact hI.sound p h
    · exact h
  · intro p h hne
    by_cases hp : has d p
    · obtain ⟨a, b⟩ := hI.up p hp hne
      exact ⟨S.mono _ a, S.keep _ _ b⟩
    · exact S.up p hp h hne
  · intro P q h
    rcases S.fresh P _ h with h | ⟨y, hy1, _, hy3, hy4, hy5⟩
    · obtain ⟨a, b, c⟩ := hI.dirOk P q h
      exact ⟨a, b, S.mono _ c⟩
    · have : q = y := by injection hy1
      rw [this]; exact ⟨hy4, hy5, hy3⟩
  · intro P i e h
    rcases S.fresh P _ h with h | ⟨y, hy1, _⟩
    · exact hI.fileOk P i e h
    · cases hy1
  · exact S.nodup hI.nodup (fun P q h => (hI.dirOk P q h).2.2)
  · intro r hr e b hf; exact S.keep _ _ (hI.fileIn r hr e b hf)
  · intro r hr hf; exact S.mono _ (hI.dirIn r hr hf)

/-- A file registration: its directory (and ancestors) registered, then the file pushed. -/
theorem inv_file {t : Tree} (hv : ValidTree t) {L : List Reg} {d : DirMap} (hI : Inv t L d) (r : Reg) (e : Name) (b : Bytes)
    (hf : r.file = some (e, b)) (hpar : isDirId t r.parent = true)
    (hnew : ∀ r' ∈ L, ∀ b', ¬ (r'.id = r.id ∧ r'.file = some (e, b'))) :
    Inv t (r :: L) (pushInto (regDir d r.parent) r.parent (.file r.id e)) := by
  obtain ⟨I1, ht⟩ := inv_regDir hv hI r.parent hpar
  generalize regDir d r.parent = d1 at I1 ht
  have hhas := has_pushInto_iff ht (.file r.id e)
  have hmem := mem_lst_pushInto d1 r.parent (.file r.id e)
  refine ⟨(hhas _).mpr I1.root, fun p h => I1.sound p ((hhas p).mp h), ?_, ?_, ?_, ?_, ?_, ?_⟩
  · intro p h hne
    obtain ⟨a, c⟩ := I1.up p ((hhas p).mp h) hne
    exact ⟨(hhas _).mpr a, (hmem _ _).mpr (Or.inl c)⟩
  · intro P q h
    rcases (hmem _ _).mp h with h | ⟨_, h⟩
    · obtain ⟨a, c, c'⟩ := I1.dirOk P q h
      exact ⟨a, c, (hhas _).mpr c'⟩
    · cases h
  · intro P i x h
    rcases (hmem _ _).mp h with h | ⟨hP, h⟩
    · obtain ⟨r', hr', hh⟩ := I1.fileOk P i x h
      exact ⟨r', List.mem_cons_of_mem _ hr', hh⟩
    · cases h
      exact ⟨r, List.mem_cons_self, hP.symm, rfl, b, hf⟩
  · apply nodup_lst_pushInto I1.nodup
    intro ha
    obtain ⟨r', hr', _, hid, b', hf'⟩ := I1.fileOk _ _ _ ha
    exact hnew r' hr' b' ⟨hid, hf'⟩
  · intro r' hr' e' b' hf'
    rcases List.mem_cons.mp hr' with h | h
    · subst h
      rw [hf] at hf'
      cases hf'
      exact (hmem _ _).mpr (Or.inr ⟨rfl, rfl⟩)
    · exact (hmem _ _).mpr (Or.inl (I1.fileIn r' h e' b' hf'))
  · intro r' hr' hf'
    rcases List.mem_cons.mp hr' with h | h
    · subst h; rw [hf] at hf'; cases hf'
    · exact (hhas _).mpr (I1.dirIn r' h hf')

theorem inv_dir {t : Tree} (hv : ValidTree t) {L : List Reg} {d : DirMap} (hI : Inv t L d) (r : Reg)
    (hf : r.file = none) (hid : isDirId t r.id = true) : Inv t (r :: L) (regDir d r.id) := by
  obtain ⟨I1, ht⟩ := inv_regDir hv hI r.id hid
  refine ⟨I1.root, I1.sound, I1.up, I1.dirOk, ?_, I1.nodup, ?_, ?_⟩
  · intro P i x h
    obtain ⟨r', hr', hh⟩ := I1.fileOk P i x h
    exact ⟨r', List.mem_cons_of_mem _ hr', hh⟩
  · intro r' hr' e' b' hf'
    rcases List.mem_cons.mp hr' with h | h
    · subst h; rw [hf] at hf'; cases hf'
    · exact I1.fileIn r' h e' b' hf'
  · intro r' hr' hf'
    rcases List.mem_cons.mp hr' with h | h
    · subst h; exact ht
    · exact I1.dirIn r' h hf'

theorem idx0_dirs : idx0.dirs = dset [] [] [] := rfl

theorem inv_idx0 (t : Tree) : Inv t [] idx0.dirs := by
  rw [idx0_dirs]
  have hhas : ∀ p, has (dset [] [] []) p ↔ p = [] := fun p =>
    (has_dset _ _ _ _).trans (or_iff_left fun h : has [] p => nomatch h)
  have hlst : ∀ P, lst (dset [] [] []) P = [] := fun P => by
    rw [lst_dset]; split <;> rfl
  refine ⟨(hhas _).mpr rfl, ?_, ?_, ?_, ?_, ?_, ?_, ?_⟩
  · intro p h; rw [(hhas p).mp h]; rfl
  · intro p h hne; exact absurd ((hhas p).mp h) hne
  · intro P q h; rw [hlst] at h; cases h
  · intro P i e h; rw [hlst] at h; cases h
  · intro P; rw [hlst]; exact List.nodup_nil
  · intro r hr; cases hr
  · intro r hr; cases hr

theorem mem_regsOfTree {t : Tree} {r : Reg} :
    r ∈ regsOfTree t ↔ (∃ f ∈ t.files, fileReg f = r) ∨ ∃ q ∈ t.dirs, dirReg q = r := by
  rw [regsOfTree, List.mem_append, List.mem_map, List.mem_map]

theorem reg_of_tree {t : Tree} (hv : ValidTree t) (r : Reg) (hr : r ∈ regsOfTree t) :
    (∀ eb, r.file = some eb → isDirId t r.parent = true) ∧ (r.file = none → isDirId t r.id = true) := by
  rcases mem_regsOfTree.mp hr with ⟨f, hf, rfl⟩ | ⟨q, hq, rfl⟩
  · refine ⟨fun _ _ => ?_, fun h => by simp [fileReg] at h⟩
    rw [isDirId_iff]
    rcases validTree_fileDir hv hf with h | h
    · left; simp [fileReg, h, dirId, joinDot]
    · right; exact ⟨f.dir, h, rfl⟩
  · refine ⟨fun eb h => by simp [dirReg] at h, fun _ => ?_⟩
    rw [isDirId_iff]; right; exact ⟨q, hq, rfl⟩

/-- The invariant holds after any sequence of registrations of entries of the tree in which no
file (id, extension) occurs twice. -/
theorem inv_indexR {t : Tree} (hv : ValidTree t) : ∀ (rs : List Reg), rs ⊆ regsOfTree t →
    ((fileKVs rs).map (·.1)).Nodup → Inv t rs (indexR rs).dirs := by
  intro rs
  induction rs with
  | nil => intro _ _; exact inv_idx0 t
  | cons r rs ih =>
    intro hsub hnd
    have hr := reg_of_tree hv r (hsub List.mem_cons_self)
    have hsub' : rs ⊆ regsOfTree t := fun _ h => hsub (List.mem_cons_of_mem _ h)
    rw [fileKVs_cons] at hnd
    rw [indexR_cons, applyReg_dirs]
    cases hf : r.file with
    | none =>
      rw [hf] at hnd
      exact inv_dir hv (ih hsub' hnd) r hf (hr.2 hf)
    | some eb =>
      obtain ⟨e, b⟩ := eb
      rw [hf, List.map_cons, List.nodup_cons] at hnd
      apply inv_file hv (ih hsub' hnd.2) r e b hf (hr.1 _ hf)
      intro r' hr' b' ⟨h1, h2⟩
      apply hnd.1
      rw [← h1]
      exact List.mem_map.mpr ⟨((r'.id, e), b'), List.mem_filterMap.mpr ⟨r', hr', by rw [Reg.kv, h2]; rfl⟩, rfl⟩

/-- If a directory is registered, so are the directories above it. -/
theorem has_prefix {t : Tree} {L : List Reg} {d : DirMap} (I : Inv t L d) {q q' : List Name} (hpre : q <+: q')
    (hv : ∀ c ∈ q', ValidName c) (h : has d (dirId q')) : has d (dirId q) := by
  obtain ⟨s, rfl⟩ := hpre
  refine (of_append_of_dropLast (P := fun q => (∀ c ∈ q, ValidName c) ∧ has d (dirId q)) ?_ q s ⟨hv, h⟩).2
  rintro q ⟨hv, h⟩
  refine ⟨fun c hc => hv c (List.dropLast_subset q hc), ?_⟩
  by_cases hne : q = []
  · rw [hne]; exact I.root
  · rw [← par_dirId ⟨hne, hv⟩]; exact (I.up _ h (dirId_ne_nil ⟨hne, hv⟩)).1

/-! ## the listings, once everything is registered -/

theorem entries_nodup (t : Tree) (hv : ValidTree t) : ((regsOfTree t).map Reg.entry).Nodup := by
  unfold regsOfTree
  rw [List.map_append, List.map_map, List.map_map]
  apply List.nodup_append.mpr
  refine ⟨?_, ?_, ?_⟩
  · have := validTree_keysNodup hv
    rw [List.Nodup, List.pairwise_map] at this ⊢
    exact this.imp (fun {a b} h e => h (by simpa [fileReg, Reg.entry] using e))
  · have := validTree_dirsNodup hv
    rw [List.Nodup, List.pairwise_map] at this ⊢
    exact this.imp (fun {a b} h e => h (by simpa [dirReg, Reg.entry] using e))
  · intro a ha b hb
    obtain ⟨f, _, rfl⟩ := List.mem_map.mp ha
    obtain ⟨q, _, rfl⟩ := List.mem_map.mp hb
    simp [fileReg, dirReg, Reg.entry]

theorem filterMap_child_sublist (p : Id) (l : List Reg) : (l.filterMap (childEntry p)).Sublist (l.map Reg.entry) := by
  induction l with
  | nil => exact List.Sublist.slnil
  | cons r rs ih =>
    by_cases h : r.parent = p
    · simp only [List.filterMap_cons, childEntry, h, if_true, List.map_cons]
      exact ih.cons_cons _
    · simp only [List.filterMap_cons, childEntry, h, if_false, List.map_cons]
      exact ih.cons _

theorem mem_filterMap_childEntry (t : Tree) (p : Id) (e : Entry) :
    e ∈ (regsOfTree t).filterMap (childEntry p) ↔ ∃ r ∈ regsOfTree t, r.parent = p ∧ r.entry = e := by
  simp only [List.mem_filterMap, childEntry]
  constructor
  · rintro ⟨r, hr, h⟩
    by_cases hp : r.parent = p
    · exact ⟨r, hr, hp, by simpa [hp] using h⟩
    · simp [hp] at h
  · rintro ⟨r, hr, hp, he⟩
    exact ⟨r, hr, by simp [hp, he]⟩

/-- After registrations that include every file of the tree, with every directory of the tree
registered, each listing has exactly the tree's entries: both are duplicate-free and have the same members. -/
theorem Inv.lst_perm {t : Tree} {L : List Reg} {d : DirMap} (I : Inv t L d) (hv : ValidTree t)
    (hL : L ⊆ regsOfTree t) (hfiles : ∀ f ∈ t.files, fileReg f ∈ L) (hhas : ∀ p, isDirId t p = true → has d p)
    (p : Id) : (lst d p).Perm ((regsOfTree t).filterMap (childEntry p)) := by
  apply (List.perm_ext_iff_of_nodup (I.nodup p) ((filterMap_child_sublist p _).nodup (entries_nodup t hv))).mpr
  intro e
  rw [mem_filterMap_childEntry]
  constructor
  · intro he
    cases e with
    | file i x =>
      obtain ⟨r, hr, h1, h2, b, h3⟩ := I.fileOk p i x he
      exact ⟨r, hL hr, h1, by rw [Reg.entry, h3, h2]⟩
    | dir q =>
      obtain ⟨h1, h2, h3⟩ := I.dirOk p q he
      rcases (isDirId_iff t q).mp (I.sound q h3) with h | ⟨q', hq', rfl⟩
      · exact absurd h h1
      · refine ⟨dirReg q', mem_regsOfTree.mpr (Or.inr ⟨q', hq', rfl⟩), ?_, rfl⟩
        rw [← h2, par_dirId (validTree_dir hv hq')]; rfl
  · rintro ⟨r, hr, rfl, rfl⟩
    rcases mem_regsOfTree.mp hr with ⟨f, hf, rfl⟩ | ⟨q, hq, rfl⟩
    · exact I.fileIn _ (hfiles f hf) f.ext f.bytes rfl
    · have hqv := validTree_dir hv hq
      have := (I.up _ (hhas _ ((isDirId_iff t _).mpr (Or.inr ⟨q, hq, rfl⟩))) (dirId_ne_nil hqv)).2
      rwa [par_dirId hqv] at this

end AmVerif.Lemmas.Archive
