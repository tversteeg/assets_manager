import AmVerif.Lemmas.World
/-!
# Lemmas for C09 (faults while loading are contained)

* `withFrame_lookup`, `loadAndRecord_lookup` — the frame machinery and the registration step never
  touch the map: the map after `load_and_record` is the map the loader body left.
* `Sim` / `eval_sim` — an evaluation consults nothing of the state but the map, the address counter
  and the recording stack; under an environment whose answers do not depend on the running read /
  checkpoint index (`Env.Steady`: no fault plan left), two states that differ only in counters and
  logs (what a failed attempt leaves behind) evaluate every program to the same outcome.
-/
namespace AmVerif.Model
open AmVerif.Gen

/-! ### The map after the frame machinery is the map the body left -/

/-- the state the loader body of `withFrame push frame` starts from -/
def frameStart (push : Bool) (frame : Option (List Dep)) (s : St) : St :=
  if push then { s with recs := frame :: s.recs } else s

theorem withFrame_lookup (push frame) (body : St → St × Outcome) (s : St) (k : Key) :
    (withFrame push frame body s).1.lookup k = (body (frameStart push frame s)).1.lookup k := by
  cases push <;> rfl

theorem withFrame_outcome (push frame) (body : St → St × Outcome) (s : St) :
    (withFrame push frame body s).2.1 = (body (frameStart push frame s)).2 := by
  cases push <;> rfl

theorem St.recordAll_lookup (s : St) (on ds) (k : Key) : (s.recordAll on ds).lookup k = s.lookup k := by
  unfold St.lookup; rw [St.recordAll_map]

theorem loadAndRecord_lookup (env : Env) (body : St → St × Outcome) (key : Key) (s : St) (k : Key) :
    (loadAndRecord env body key s).1.lookup k =
      (body (frameStart (recordsAsset (env.types key.ty).hot env.hasReloader) (some []) s)).1.lookup k := by
  rw [← withFrame_lookup]
  unfold loadAndRecord
  generalize withFrame _ (some []) body s = r
  obtain ⟨s1, o, d⟩ := r
  cases o with
  | ok v => simp only []; split <;> rfl
  | err e => simp only []; exact St.recordAll_lookup _ _ _ _
  | panicked => rfl
  | diverged => rfl

/-- `load_and_record` is `ok` exactly when the loader body is. -/
theorem loadAndRecord_ok_iff (env : Env) (body : St → St × Outcome) (key : Key) (s : St) (v : Val) :
    (loadAndRecord env body key s).2 = .ok v ↔
      (body (frameStart (recordsAsset (env.types key.ty).hot env.hasReloader) (some []) s)).2 = .ok v := by
  rw [← withFrame_outcome]
  unfold loadAndRecord
  generalize withFrame _ (some []) body s = r
  obtain ⟨s1, o, d⟩ := r
  cases o <;> simp

/-! ### What an evaluation consults -/

/-- `s` and `t` differ at most in counters and logs (`ios`, `loads`, `out`, `dropped`) and in the ghost ledger. -/
structure Sim (s t : St) : Prop where
  map : s.map = t.map
  next : s.next = t.next
  recs : s.recs = t.recs

theorem Sim.refl (s : St) : Sim s s := ⟨rfl, rfl, rfl⟩

theorem Sim.lookup {s t : St} (h : Sim s t) (k : Key) : s.lookup k = t.lookup k := by
  unfold St.lookup; rw [h.map]

theorem Sim.record {s t : St} (h : Sim s t) (on : Bool) (d : Dep) : Sim (s.record on d) (t.record on d) := by
  unfold St.record
  rw [h.recs]
  split
  · split
    · exact ⟨h.map, h.next, rfl⟩
    · exact h
  · exact h

theorem Sim.recordAll {s t : St} (h : Sim s t) (on : Bool) (ds : List Dep) : Sim (s.recordAll on ds) (t.recordAll on ds) :=
  List.foldl_rel h fun d _ _ _ hc => hc.record on d

theorem Sim.send {s t : St} (h : Sim s t) (m : Msg) : Sim (s.send m) (t.send m) := ⟨h.map, h.next, h.recs⟩

theorem Sim.insertKeepFirst {s t : St} (h : Sim s t) (k : Key) (c : Cell) :
    Sim (s.insertKeepFirst k c).1 (t.insertKeepFirst k c).1 ∧ (s.insertKeepFirst k c).2 = (t.insertKeepFirst k c).2 := by
  unfold St.insertKeepFirst
  rw [h.lookup k]
  cases t.lookup k with
  | some c' => exact ⟨⟨h.map, h.next, h.recs⟩, rfl⟩
  | none => exact ⟨⟨by simp [h.map], h.next, h.recs⟩, rfl⟩

/-- two results with related states and the same outcome -/
def SimRes (r1 r2 : St × Outcome) : Prop := Sim r1.1 r2.1 ∧ r1.2 = r2.2

/-- `body` consults nothing but map, address counter and recording stack -/
def Resp (body : St → St × Outcome) : Prop := ∀ s t, Sim s t → SimRes (body s) (body t)

theorem withFrame_sim (push : Bool) (frame) (body : St → St × Outcome) (hb : Resp body) {s t : St} (h : Sim s t) :
    Sim (withFrame push frame body s).1 (withFrame push frame body t).1 ∧
    (withFrame push frame body s).2 = (withFrame push frame body t).2 := by
  unfold withFrame
  cases push with
  | true =>
    have hh := hb { s with recs := frame :: s.recs } { t with recs := frame :: t.recs } ⟨h.map, h.next, by simp [h.recs]⟩
    simp only [if_true]
    exact ⟨⟨hh.1.map, hh.1.next, h.recs⟩, by rw [hh.2, hh.1.recs]⟩
  | false =>
    have hh := hb s t h
    simp only [Bool.false_eq_true, if_false]
    exact ⟨hh.1, by rw [hh.2]⟩

theorem onFreshThread_sim (body : St → St × Outcome) (hb : Resp body) {s t : St} (h : Sim s t) :
    SimRes (onFreshThread body s) (onFreshThread body t) := by
  have hh := hb { s with recs := [] } { t with recs := [] } ⟨h.map, h.next, rfl⟩
  exact ⟨⟨hh.1.map, hh.1.next, h.recs⟩, hh.2⟩

theorem cont_sim {o1 o2 : Outcome} (k : Except LErr Val → St → St × Outcome) (wrap) (hk : ∀ r, Resp (k r)) {s t : St}
    (h : Sim s t) (ho : o1 = o2) : SimRes (cont o1 s k wrap) (cont o2 t k wrap) := by
  subst ho
  unfold cont
  cases o1 with
  | ok v => exact hk _ s t h
  | err e => exact hk _ s t h
  | _ => exact ⟨h, rfl⟩

theorem tryK_sim (K : Option (Except LErr Val) → St → St × Outcome) (hK : ∀ o, Resp (K o)) {r1 r2 : St × Outcome}
    (h : SimRes r1 r2) : SimRes (tryK K r1) (tryK K r2) := by
  obtain ⟨s1, o1⟩ := r1
  obtain ⟨s2, o2⟩ := r2
  obtain ⟨hs, ho⟩ := h
  cases ho
  cases o1 with
  | diverged => exact ⟨hs, rfl⟩
  | _ => exact hK _ _ _ hs

theorem okOr_sim (onOk : Val → St → St × Outcome) (K : Except LErr Val → St → St × Outcome)
    (hok : ∀ v, Resp (onOk v)) (hK : ∀ r, Resp (K r)) {r1 r2 : St × Outcome} (h : SimRes r1 r2) :
    SimRes (okOr onOk K r1) (okOr onOk K r2) := by
  obtain ⟨s1, o1⟩ := r1
  obtain ⟨s2, o2⟩ := r2
  obtain ⟨hs, ho⟩ := h
  cases ho
  cases o1 with
  | ok v => exact hok v _ _ hs
  | _ => exact cont_sim K id hK hs rfl

theorem loadAndRecord_sim (env : Env) (body : St → St × Outcome) (hb : Resp body) (key : Key) {s t : St} (h : Sim s t) :
    SimRes (loadAndRecord env body key s) (loadAndRecord env body key t) := by
  unfold loadAndRecord
  have hf := withFrame_sim (recordsAsset (env.types key.ty).hot env.hasReloader) (some []) body hb h
  generalize withFrame _ (some []) body s = r1 at hf ⊢
  generalize withFrame _ (some []) body t = r2 at hf ⊢
  obtain ⟨s1, o1, d1⟩ := r1
  obtain ⟨s2, o2, d2⟩ := r2
  obtain ⟨hs, ho⟩ := hf
  simp only [Prod.mk.injEq] at ho
  obtain ⟨ho, hd⟩ := ho
  subst ho hd
  cases o1 with
  | ok v =>
    simp only []
    split
    · exact ⟨hs.send _, rfl⟩
    · exact ⟨hs, rfl⟩
  | err e => exact ⟨hs.recordAll _ _, rfl⟩
  | panicked => exact ⟨hs, rfl⟩
  | diverged => exact ⟨hs, rfl⟩

/-- The environment's answers do not depend on the running read / checkpoint index: there is no
fault plan (left), e.g. after `fault.clear`. -/
def Env.Steady (env : Env) : Prop :=
  (∀ i j id ext, env.read i id ext = env.read j id ext) ∧
  (∀ i j id, env.readDir i id = env.readDir j id) ∧
  (∀ i j, env.loaderFault i = env.loaderFault j)

/-- Under a steady environment an evaluation depends on the state only through map, address counter
and recording stack. -/
theorem eval_sim (env : Env) (hst : env.Steady) : ∀ f p, Resp (fun s => eval env f s p) := by
  intro f
  induction f with
  | zero => intro p s t h; exact ⟨h, rfl⟩
  | succ f ih =>
    intro p s t h
    show SimRes (eval env (f + 1) s p) (eval env (f + 1) t p)
    cases p with
    | ret v => exact ⟨h, rfl⟩
    | fail e => exact ⟨h, rfl⟩
    | panic => exact ⟨h, rfl⟩
    | read id ext k =>
      have hr := h.record (recordsRead env.hasReloader) (.file id ext)
      simp only [eval]
      rw [hst.1 (s.record _ _).ios (t.record (recordsRead env.hasReloader) (.file id ext)).ios id ext]
      exact ih _ _ _ ⟨hr.map, hr.next, hr.recs⟩
    | readDir id k =>
      have hr := h.record (recordsRead env.hasReloader) (.dir id)
      simp only [eval]
      rw [hst.2.1 (s.record _ _).ios (t.record (recordsRead env.hasReloader) (.dir id)).ios id]
      exact ih _ _ _ ⟨hr.map, hr.next, hr.recs⟩
    | getCached key k =>
      have hr := h.record (recordsAsset (env.types key.ty).hot env.hasReloader) (.asset key)
      simp only [eval]
      rw [hr.lookup key]
      exact ih _ _ _ hr
    | tick k =>
      simp only [eval]
      rw [hst.2.2 s.loads t.loads]
      exact ih _ _ _ ⟨h.map, h.next, h.recs⟩
    | getOrInsert key v k =>
      have hr := h.record (recordsAsset (env.types key.ty).hot env.hasReloader) (.asset key)
      simp only [eval]
      generalize s.record _ _ = s' at hr ⊢
      generalize t.record _ _ = t' at hr ⊢
      rw [hr.lookup key]
      cases hl : t'.lookup key with
      | some c => exact ih _ _ _ ⟨hr.map, hr.next, hr.recs⟩
      | none =>
        simp only []
        rw [hr.next]
        have hi := hr.insertKeepFirst key (insertedCell env key v t'.next)
        exact ih _ _ _ ⟨hi.1.map, rfl, hi.1.recs⟩
    | tryCatch body k =>
      rw [eval_tryCatch, eval_tryCatch]
      exact tryK_sim _ (fun o => ih (k o)) (ih body s t h)
    | noRecord body k =>
      rw [eval_noRecord, eval_noRecord]
      have hf := withFrame_sim true none (fun s => eval env f s body) (ih body) h
      exact cont_sim _ id (fun r => ih (k r)) hf.1 (congrArg Prod.fst hf.2)
    | onThread body k =>
      rw [eval_onThread, eval_onThread]
      have hf := onFreshThread_sim (fun s => eval env f s body) (ih body) h
      exact cont_sim _ id (fun r => ih (k r)) hf.1 hf.2
    | loadOwned key k =>
      rw [eval_loadOwned, eval_loadOwned]
      exact okOr_sim _ _ (fun v s t h => ih (k (.ok v)) (s.handOut key.ty) (t.handOut key.ty) ⟨h.map, h.next, h.recs⟩)
        (fun r => ih (k r)) (loadAndRecord_sim env _ (ih _) key (h.record _ _))
    | load key k =>
      have hr := h.record (recordsAsset (env.types key.ty).hot env.hasReloader) (.asset key)
      cases hl : s.lookup key with
      | some c =>
        rw [eval_load_hit env f s key k c hl, eval_load_hit env f t key k c ((h.lookup key).symm.trans hl)]
        exact ih _ _ _ hr
      | none =>
        rw [eval_load_miss₀ env f s key k hl, eval_load_miss₀ env f t key k ((h.lookup key).symm.trans hl)]
        refine okOr_sim _ _ (fun v s t h => ?_) (fun r => ih (k r)) (loadAndRecord_sim env _ (ih _) key hr)
        have hi := h.insertKeepFirst key (newCell env key.ty v s.next)
        rw [← h.next, ← h.lookup key, ← hi.2]
        exact ih _ _ _ ⟨hi.1.map, congrArg (· + 1) h.next, hi.1.recs⟩

end AmVerif.Model
