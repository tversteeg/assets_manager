import AmVerif.Model.Cell
/-!
# The interpreter of `Model/Cell.lean`, characterised once

What a thread's step is (`stepTh_act` for a call in flight, `stepTh_idle` otherwise), what one token
can do (`Effect`), what `get` answers (`getStep_eq`), and the forward equations of the tokens whose
effect depends on the state; the invariant proofs and the property theorems argue from these instead
of unfolding `interp` / `getStep` / `stepTh`.
-/
namespace AmVerif.Model.Cell
open AmVerif.Gen.Cell

variable {sh sh' : Sh} {t : Nat} {th th' : Th} {a : Act} {tok : Tok}

/-! ## A call in flight executes the token at its program point; an idle thread starts its next call -/

theorem stepTh_act (ha : th.act = some a) : stepTh sh t th = (progOf a.path)[a.pc]?.bind (interp sh t th a) := by
  unfold stepTh
  rw [ha]
  dsimp only
  cases (progOf a.path)[a.pc]? <;> rfl

theorem stepTh_act_tok (ha : th.act = some a)
    (htok : (progOf a.path)[a.pc]? = some tok) : stepTh sh t th = interp sh t th a tok := by
  rw [stepTh_act ha, htok]; rfl

/-- a step of a call in flight, read backwards: the token's equation gives the new state -/
theorem of_stepTh {p : Sh × Th}
    (hact : th.act = some a) (htok : (progOf a.path)[a.pc]? = some tok)
    (hst : stepTh sh t th = some (sh', th')) (e : interp sh t th a tok = some p) : sh' = p.1 ∧ th' = p.2 := by
  rw [stepTh_act_tok hact htok, e] at hst
  cases hst; exact ⟨rfl, rfl⟩

theorem stepTh_idle (ha : th.act = none) : stepTh sh t th = match th.calls with
    | [] => none
    | .get :: rest => (getStep sh).map fun p => (p.1, { th with calls := rest, results := p.2 :: th.results })
    | .init o :: rest =>
      some (sh, { th with calls := rest, act := some { path := dispatch sh.kind.needsDrop, pc := 0, out := o } }) := by
  unfold stepTh
  rw [ha]
  cases th.calls with
  | nil => rfl
  | cons c rest =>
    cases c with
    | init o => rfl
    | get => cases getStep sh <;> rfl

theorem abort_running (h : sh.once = .running t) : abort sh t = { sh with once := .empty } :=
  if_pos h

/-! ## What one token can do -/

/-- One token blocks (only at the once, while a closure runs), moves on, ends the call with a result
other than the initialiser's failure, or — `callF` alone — ends it with that failure, leaving the seed. -/
inductive Effect (sh : Sh) (t : Nat) (th : Th) (a : Act) (tok : Tok) : Option (Sh × Th) → Prop
  | blocks (r : Nat) : tok = .onceEnter → sh.once = .running r → Effect sh t th a tok none
  | moves (sh' : Sh) (a' : Act) : Effect sh t th a tok (some (sh', goto th a'))
  | ends (sh' : Sh) (r : Res) : (r = .ub ∨ r = .panicDrop ∨ ∃ v, r = .ref v) →
      Effect sh t th a tok (some (sh', finish th r))
  | fails (c : Nat) (r : Res) : tok = .callF → sh.data = .seed c →
      Effect sh t th a tok (some (abort { sh with data := .seed (c + a.out.delta) } t, finish th r))

theorem interp_effect (sh : Sh) (t : Nat) (th : Th) (a : Act) (tok : Tok) :
    Effect sh t th a tok (interp sh t th a tok) := by
  obtain ⟨kind, once, data, inits, sd, sl, ub⟩ := sh
  obtain ⟨path, pc, ⟨k, delta⟩, val, tmp, slot⟩ := a
  -- state and registers are constructor terms now, so every branch of `interp` is reached by unfolding
  cases tok with
  | slotNone | borrow | mkState | onceExit => exact .moves _ _
  | onceEnter =>
    cases once with
    | running r => exact .blocks r rfl rfl
    | done | empty => exact .moves _ _
  | callF =>
    cases data with
    | value v => exact .ends _ _ (Or.inl rfl)
    | seed c =>
      cases k with
      | ok => exact .moves _ _
      | err | panic => exact .fails c _ rfl rfl
  | replace | overwrite =>
    cases data with
    | value v => exact .ends _ _ (Or.inl rfl)
    | seed c =>
      cases val with
      | none => exact .ends _ _ (Or.inl rfl)
      | some v => exact .moves _ _
  | escape =>
    cases tmp with
    | none => exact .ends _ _ (Or.inl rfl)
    | some c => exact .moves _ _
  | dropTmp =>
    cases tmp with
    | none => exact .ends _ _ (Or.inl rfl)
    | some c =>
      cases kind with
      | bomb => exact .ends _ _ (Or.inr (Or.inl rfl))
      | plain | tracked => exact .moves _ _
  | dropEscaped =>
    cases slot with
    | none => exact .moves _ _
    | some c =>
      cases kind with
      | bomb => exact .ends _ _ (Or.inr (Or.inl rfl))
      | plain | tracked => exact .moves _ _
  | closureOk =>
    by_cases h : once = .running t
    · show Effect _ _ _ _ _ (if _ then _ else _); rw [if_pos h]; exact .moves _ _
    · show Effect _ _ _ _ _ (if _ then _ else _); rw [if_neg h]; exact .ends _ _ (Or.inl rfl)
  | ret =>
    cases data with
    | value v => exact .ends _ _ (Or.inr (Or.inr ⟨v, rfl⟩))
    | seed c => exact .ends _ _ (Or.inl rfl)

/-- the only statement that can block is the entry into the once, and only while a closure runs -/
theorem interp_none (h : interp sh t th a tok = none) : tok = .onceEnter ∧ ∃ r, sh.once = .running r := by
  have o := interp_effect sh t th a tok
  rw [h] at o
  cases o with
  | blocks r h1 h2 => exact ⟨h1, r, h2⟩

/-- only the user's initialiser makes a call end in `Err` / its panic -/
theorem interp_fail {r : Res}
    (h : interp sh t th a tok = some (sh', th')) (hr : th'.results = r :: th.results)
    (hf : r = .panicF ∨ ∃ e, r = .err e) :
    tok = .callF ∧ ∃ c, sh.data = .seed c ∧ sh' = abort { sh with data := .seed (c + a.out.delta) } t ∧ th'.act = none := by
  have o := interp_effect sh t th a tok
  rw [h] at o
  cases o with
  | moves => exact absurd hr.symm (List.cons_ne_self _ _)
  | ends _ r' hres =>
    cases (List.cons.inj hr).1
    rcases hres with rfl | rfl | ⟨v, rfl⟩ <;> rcases hf with hf | ⟨e, hf⟩ <;> cases hf
  | fails c _ h1 h2 => exact ⟨h1, c, h2, rfl, rfl⟩

/-! ## `get` -/

/-- `get()` is one enabled step whose answer is read off the once. -/
theorem getStep_eq (sh : Sh) : getStep sh = some (match sh.once, sh.data with
    | .done, .value v => (sh, .ref v)
    | .done, .seed _ => ({ sh with ub := true }, .ub)
    | _, _ => (sh, .none)) := by
  obtain ⟨kind, once, data, inits, sd, sl, ub⟩ := sh
  cases once <;> cases data <;> rfl

/-- `get` is always enabled: it answers `None`, a reference, or (on a state the invariant excludes) touches the dead arm. -/
theorem getStep_res (sh : Sh) :
    ∃ sh' r, getStep sh = some (sh', r) ∧ (r = .none ∨ r = .ub ∨ ∃ v, r = .ref v) := by
  rw [getStep_eq]
  split
  · exact ⟨_, _, rfl, Or.inr (Or.inr ⟨_, rfl⟩)⟩
  · exact ⟨_, _, rfl, Or.inr (Or.inl rfl)⟩
  · exact ⟨_, _, rfl, Or.inl rfl⟩

/-! ## Which step makes a call fail -/

/-- A step after which a call has ended with the initialiser's `Err` / panic was `callF` of a call in flight,
with the seed in the union; it leaves the seed as the initialiser changed it, and the once as `abort` says. -/
theorem stepTh_fail {r : Res}
    (h : stepTh sh t th = some (sh', th')) (hr : th'.results = r :: th.results)
    (hf : r = .panicF ∨ ∃ e, r = .err e) :
    ∃ a c, th.act = some a ∧ (progOf a.path)[a.pc]? = some .callF ∧ sh.data = .seed c ∧
      sh' = abort { sh with data := .seed (c + a.out.delta) } t ∧ th'.act = none := by
  cases hact : th.act with
  | some a =>
    cases htok : (progOf a.path)[a.pc]? with
    | none => rw [stepTh_act hact, htok] at h; cases h
    | some tok =>
      rw [stepTh_act_tok hact htok] at h
      obtain ⟨rfl, c, h1, h2, h3⟩ := interp_fail h hr hf
      exact ⟨a, c, rfl, htok, h1, h2, h3⟩
  | none =>
    -- a thread that is not in a call starts one (no result) or performs a `get` (never a failure)
    exfalso
    rw [stepTh_idle hact] at h
    cases hc : th.calls with
    | nil => rw [hc] at h; cases h
    | cons c rest =>
      rw [hc] at h
      cases c with
      | init o => cases h; exact List.cons_ne_self _ _ hr.symm
      | get =>
        obtain ⟨sh2, r2, e, hk⟩ := getStep_res sh
        rw [e] at h
        cases h
        cases (List.cons.inj hr).1
        rcases hk with rfl | rfl | ⟨v, rfl⟩ <;> rcases hf with hf | ⟨e, hf⟩ <;> cases hf

/-! ## Forward equations of the tokens whose effect depends on the state -/

theorem interp_onceEnter_empty (h : sh.once = .empty) :
    interp sh t th a .onceEnter = some ({ sh with once := .running t }, goto th { a with pc := a.pc + 1 }) := by
  obtain ⟨kind, once, data, inits, sd, sl, ub⟩ := sh; cases h; rfl

theorem interp_onceEnter_running {r : Nat} (h : sh.once = .running r) :
    interp sh t th a .onceEnter = none := by
  obtain ⟨kind, once, data, inits, sd, sl, ub⟩ := sh; cases h; rfl

theorem interp_onceEnter_done (h : sh.once = .done) :
    interp sh t th a .onceEnter = some (sh, goto th { a with pc := exitIdx (progOf a.path) }) := by
  obtain ⟨kind, once, data, inits, sd, sl, ub⟩ := sh; cases h; rfl

theorem interp_callF {c : Nat} (h : sh.data = .seed c) :
    interp sh t th a .callF = match a.out.kind with
      | .ok => some ({ sh with data := .seed (c + a.out.delta), inits := sh.inits + 1 },
          goto th { a with val := some (c + a.out.delta), pc := a.pc + 1 })
      | .err => some (abort { sh with data := .seed (c + a.out.delta) } t, finish th (.err (c + a.out.delta)))
      | .panic => some (abort { sh with data := .seed (c + a.out.delta) } t, finish th .panicF) := by
  obtain ⟨kind, once, data, inits, sd, sl, ub⟩ := sh; cases h; rfl

theorem interp_replace {c v : Nat} (hd : sh.data = .seed c)
    (hv : a.val = some v) :
    interp sh t th a .replace =
      some ({ sh with data := .value v }, goto th { a with val := none, tmp := some c, pc := a.pc + 1 }) := by
  obtain ⟨kind, once, data, inits, sd, sl, ub⟩ := sh
  obtain ⟨path, pc, out, val, tmp, slot⟩ := a
  cases hd; cases hv; rfl

theorem interp_overwrite {c v : Nat} (hd : sh.data = .seed c)
    (hv : a.val = some v) :
    interp sh t th a .overwrite =
      some ({ sh with data := .value v, seedLeaks := sh.seedLeaks + 1 }, goto th { a with val := none, pc := a.pc + 1 }) := by
  obtain ⟨kind, once, data, inits, sd, sl, ub⟩ := sh
  obtain ⟨path, pc, out, val, tmp, slot⟩ := a
  cases hd; cases hv; rfl

theorem interp_escape {c : Nat} (h : a.tmp = some c) :
    interp sh t th a .escape = some (sh, goto th { a with tmp := none, slot := some c, pc := a.pc + 1 }) := by
  obtain ⟨path, pc, out, val, tmp, slot⟩ := a; cases h; rfl

theorem interp_closureOk (h : sh.once = .running t) :
    interp sh t th a .closureOk = some ({ sh with once := .done }, goto th { a with pc := a.pc + 1 }) :=
  if_pos h

theorem interp_dropEscaped_none (h : a.slot = none) :
    interp sh t th a .dropEscaped = some (sh, goto th { a with pc := a.pc + 1 }) := by
  obtain ⟨path, pc, out, val, tmp, slot⟩ := a; cases h; rfl

theorem interp_dropEscaped_some {c : Nat} (h : a.slot = some c) :
    interp sh t th a .dropEscaped =
      some ({ sh with seedDrops := sh.seedDrops + 1 },
        if sh.kind = .bomb then finish th .panicDrop else goto th { a with slot := none, pc := a.pc + 1 }) := by
  obtain ⟨path, pc, out, val, tmp, slot⟩ := a; cases h
  show (if sh.kind = .bomb then _ else _) = _
  split <;> rfl

theorem interp_ret {v : Nat} (h : sh.data = .value v) :
    interp sh t th a .ret = some (sh, finish th (.ref v)) := by
  obtain ⟨kind, once, data, inits, sd, sl, ub⟩ := sh; cases h; rfl

end AmVerif.Model.Cell
