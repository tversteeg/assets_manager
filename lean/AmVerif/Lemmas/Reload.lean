import AmVerif.Model.History
import AmVerif.Lemmas.World
/-!
# One API operation, one reload, one pass

Each operation of the front-end (`step`, `reloadUntyped`, `reloadAll`) is characterised once; the proofs elsewhere go
through these lemmas instead of unfolding the model.

* `St.setCell_lookup`, `lookup_removed` — the map after a `write` / a removal, key by key.
* `Added P` — what an evaluation adds to the cache (an `EvalRel`).
* `step_*_lookup`, `step_load_snd`, `step_getOrInsert_eq` — every API operation: the cache afterwards key by key, and the
  answer (`get_or_insert` is the keep-first insertion of the offered cell); `step_keeps`, `step_added` — what they have in common.
* `reloadUntyped_absent` / `_skipped` / `_evaluated` — `reload_untyped` in terms of the evaluation it performs
  (`reloadEval`); `reloadUntyped_dyn_or` — the key holds a dynamic cell (`reloadUntyped_dyn`) or nothing happens;
  `reloadUntyped_cases` — the coarse view: nothing beyond what the nested loads add, or additionally exactly one
  `write` of the key's (dynamic) cell.
* `Cell.Ev` / `St.Ev` — "evolves": the cell is the same, or it is dynamic, its reload id is strictly
  larger and its global flag is set. Preserved by everything a reloader does (`reloadAll_ev`, …).
* `RSt.noteReload`, `reloadAll_cons` — one key of a pass; `reloadAll_inv` — what that step keeps, the pass keeps;
  `reloadAll_cons_eq` — a pass is the iteration of its one-key step. `reloadAll_frame` — a pass touches only the keys of
  its list; `reloadAll_rid_le_succ` — with a duplicate-free list every reload id grows by at most one.
* `Prog.NoInsert` / `Env.NoInsert` — loaders that never call `get_or_insert` (`eval_added_noInsert`).
* `St.All I`, `WriteStable I` — invariants of the stored cells that a `write` keeps (`reloadUntyped_all`, `step_all`).
-/
namespace AmVerif.Model
open AmVerif.Gen

theorem St.lookup_congr {s t : St} (h : t.map = s.map) (k : Key) : t.lookup k = s.lookup k := by
  unfold St.lookup; rw [h]

-- used from `reloadUntyped_ridOf_le` on; it stands before every statement with a `match` on a look-up, whose matcher
-- it would otherwise pick up
/-- the reload id a handle on `k` shows (`NEVER` for an absent key: what a fresh entry starts with) -/
def St.ridOf (s : St) (k : Key) : Nat :=
  match s.lookup k with
  | some c => c.rid
  | none => ReloadId_NEVER

/-! ## The map after a `write` and after a removal -/

theorem St.setCell_lookup (s : St) (k k' : Key) (c : Cell) :
    (s.setCell k c).lookup k' = if k' = k then (s.lookup k).map (fun _ => c) else s.lookup k' :=
  Assoc.find_update s.map k k' c

theorem St.setCell_lookup_self (s : St) (k : Key) (c c0 : Cell) (h : s.lookup k = some c0) :
    (s.setCell k c).lookup k = some c := by
  rw [St.setCell_lookup, if_pos rfl, h]; rfl

theorem St.setCell_lookup_other (s : St) (k k' : Key) (c : Cell) (h : k' ≠ k) :
    (s.setCell k c).lookup k' = s.lookup k' := by
  rw [St.setCell_lookup, if_neg h]

/-- the map after `remove` / `take` -/
theorem lookup_removed (s : St) (key k : Key) :
    St.lookup { s with map := s.map.filter (·.1 ≠ key) } k = if k = key then none else s.lookup k :=
  Assoc.find_filter s.map key k

/-- … holds nothing that was not there -/
theorem lookup_of_removed {s : St} {key k : Key} {c : Cell}
    (h : St.lookup { s with map := s.map.filter (·.1 ≠ key) } k = some c) : s.lookup k = some c := by
  rw [lookup_removed] at h
  split at h
  · cases h
  · exact h

/-! ## Loaders without `get_or_insert` -/

/-- Loader programs that never call `get_or_insert` themselves. -/
inductive Prog.NoInsert : Prog → Prop
  | ret (v : Val) : NoInsert (.ret v)
  | fail (e : LErr) : NoInsert (.fail e)
  | panic : NoInsert .panic
  | read (id ext : String) (k : Except IoErr (List UInt8) → Prog) : (∀ r, NoInsert (k r)) → NoInsert (.read id ext k)
  | readDir (id : String) (k : Except IoErr (List DirEnt) → Prog) : (∀ r, NoInsert (k r)) → NoInsert (.readDir id k)
  | load (key : Key) (k : Except LErr Val → Prog) : (∀ r, NoInsert (k r)) → NoInsert (.load key k)
  | getCached (key : Key) (k : Option Val → Prog) : (∀ r, NoInsert (k r)) → NoInsert (.getCached key k)
  | loadOwned (key : Key) (k : Except LErr Val → Prog) : (∀ r, NoInsert (k r)) → NoInsert (.loadOwned key k)
  | noRecord (body : Prog) (k : Except LErr Val → Prog) : NoInsert body → (∀ r, NoInsert (k r)) → NoInsert (.noRecord body k)
  | onThread (body : Prog) (k : Except LErr Val → Prog) : NoInsert body → (∀ r, NoInsert (k r)) → NoInsert (.onThread body k)
  | tick (k : Option Bool → Prog) : (∀ r, NoInsert (k r)) → NoInsert (.tick k)
  | tryCatch (body : Prog) (k : Option (Except LErr Val) → Prog) : NoInsert body → (∀ r, NoInsert (k r)) → NoInsert (.tryCatch body k)

/-- no loader of the type table calls `get_or_insert` -/
def Env.NoInsert (env : Env) : Prop := ∀ ty id, ((env.types ty).prog id).NoInsert

theorem Prog.NoInsert.ret' (r : Except LErr Val) : (Prog.ret' r).NoInsert := by
  cases r <;> constructor

theorem Prog.NoInsert.closed {env : Env} (henv : env.NoInsert) : Prog.Closed env Prog.NoInsert where
  read h := by cases h; assumption
  readDir h := by cases h; assumption
  getCached h := by cases h; assumption
  getOrInsert h := nomatch h
  tick h := by cases h; assumption
  tryCatch h := by cases h; exact ⟨‹_›, ‹_›⟩
  noRecord h := by cases h; exact ⟨‹_›, ‹_›⟩
  onThread h := by cases h; exact ⟨‹_›, ‹_›⟩
  loadOwned h := by cases h; exact ⟨henv _ _, ‹_›⟩
  load h := by cases h; exact ⟨henv _ _, ‹_›⟩

/-! ## What an evaluation adds -/

/-- Every cell of `t` is a cell of `s` (same key, unchanged) or satisfies `P`. -/
def Added (P : Key → Cell → Prop) (s t : St) : Prop :=
  ∀ k c, t.lookup k = some c → s.lookup k = some c ∨ P k c

theorem Added.refl (P) (s : St) : Added P s s := fun _ _ h => Or.inl h

theorem Added.trans {P} {a b c : St} (h1 : Added P a b) (h2 : Added P b c) : Added P a c := by
  intro k x hx
  rcases h2 k x hx with h | h
  · exact h1 k x h
  · exact Or.inr h

theorem Added.of_map_eq {P} {s t : St} (e : t.map = s.map) : Added P s t := by
  intro k c h; left; rw [← St.lookup_congr e k]; exact h

/-- a cell under a key that was absent is a new one -/
theorem Added.new {P} {s t : St} (h : Added P s t) {k : Key} {c : Cell} (hc : t.lookup k = some c)
    (habs : s.lookup k = none) : P k c :=
  (h k c hc).resolve_left (fun h' => by rw [habs] at h'; cases h')

/-- `P` holds of every cell an evaluation creates under `env`: by a load (`newCell`) or by a loader's
`get_or_insert` (`insertedCell`). -/
def NewCellsSat (env : Env) (P : Key → Cell → Prop) : Prop :=
  (∀ key v addr, P key (newCell env key.ty v addr)) ∧ ∀ key v addr, P key (insertedCell env key v addr)

/-- keep-first insertion of a cell satisfying `P` -/
theorem Added.ins_cell {P : Key → Cell → Prop} (s : St) (key : Key) (c0 : Cell) (h0 : P key c0) :
    Added P s (s.insertKeepFirst key c0).1 := by
  intro k c hc
  rw [St.insertKeepFirst_lookup] at hc
  split at hc
  · next hk =>
    subst hk
    cases hs : s.lookup k with
    | some x => rw [hs] at hc; exact Or.inl hc
    | none => rw [hs] at hc; cases hc; exact Or.inr h0
  · exact Or.inl hc

/-- `P` holds of the cells loads create, and of the cells the `get_or_insert` nodes satisfying `Q` create -/
theorem Added.evalRel {env : Env} {P : Key → Cell → Prop} {Q : Prog → Prop}
    (hl : ∀ key v addr, P key (newCell env key.ty v addr))
    (ha : ∀ key v k addr, Q (.getOrInsert key v k) → P key (insertedCell env key v addr)) : EvalRel env Q (Added P) where
  refl := Added.refl P
  trans := Added.trans
  record s on d := .of_map_eq (St.record_map s on d)
  ios _ := .of_map_eq rfl
  loads _ := .of_map_eq rfl
  send _ _ := .of_map_eq rfl
  handOut _ _ := .of_map_eq rfl
  addLoad s key v _ _ := (Added.ins_cell s key _ (hl key v _)).trans (.of_map_eq rfl)
  addAny s key v k hq _ := (Added.ins_cell s key _ (ha key v k _ hq)).trans (.of_map_eq rfl)
  frame _ _ _ hb := hb

theorem Added.evalRel_all {env : Env} {P : Key → Cell → Prop} (hP : NewCellsSat env P) : EvalRel env (fun _ => True) (Added P) :=
  Added.evalRel hP.1 (fun key v _ addr _ => hP.2 key v addr)

/-- Whatever an evaluation adds to the cache was created by `newCell` or `insertedCell` under this `env`. -/
theorem eval_added (env : Env) (P) (hP : NewCellsSat env P) (f : Nat) (s : St) (p : Prog) : Added P s (eval env f s p).1 :=
  (Added.evalRel_all hP).eval_all f s p

/-- Whatever an evaluation without `get_or_insert` (in the loader and in the type table) adds to the
cache was created by `newCell` under this `env`. -/
theorem eval_added_noInsert (env : Env) (henv : env.NoInsert) (P) (hP : ∀ key v addr, P key (newCell env key.ty v addr))
    (f : Nat) (s : St) (p : Prog) (hp : p.NoInsert) : Added P s (eval env f s p).1 :=
  (Added.evalRel hP (fun _ _ _ _ h => nomatch h)).eval (Prog.NoInsert.closed henv) f s p hp

theorem evalTop_added (env : Env) (P) (hP : NewCellsSat env P) (fuel : Nat) (s : St) (p : Prog) :
    Added P s (evalTop env fuel s p).1 :=
  eval_added env P hP fuel { s with recs := [] } p

/-! ## API operations -/

theorem step_load_fst (env : Env) (fuel : Nat) (s : St) (key : Key) :
    (step env fuel s (.load key)).1 = (evalTop env fuel s (.load key Prog.ret')).1 := by
  simp only [step]
  generalize evalTop env fuel s (.load key Prog.ret') = x
  obtain ⟨s1, o⟩ := x
  cases o <;> rfl

/-- what the API `load` answers: the handle on the entry now under `key` when the evaluation returned, else its outcome -/
theorem step_load_snd (env : Env) (fuel : Nat) (s : St) (key : Key) :
    (step env fuel s (.load key)).2 =
      match (evalTop env fuel s (.load key Prog.ret')).2 with
      | .ok _ =>
        (match (evalTop env fuel s (.load key Prog.ret')).1.lookup key with
          | some c => .handle c.addr c.val
          | none => .panicked)
      | o => outcomeRes o := by
  simp only [step]
  generalize evalTop env fuel s (.load key Prog.ret') = x
  obtain ⟨s1, o⟩ := x
  cases o <;> rfl

theorem step_loadOwned_fst (env : Env) (fuel : Nat) (s : St) (key : Key) :
    (step env fuel s (.loadOwned key)).1 = (evalTop env fuel s (.loadOwned key Prog.ret')).1 := rfl

/-- **`get_or_insert` is the keep-first insertion of the offered cell**: the map and the channel afterwards, and the answer
(what else changes is the ghost ledger: a value was created, and dropped at once when the key was there) -/
theorem step_getOrInsert_eq (env : Env) (fuel : Nat) (s : St) (key : Key) (v : Val) :
    (step env fuel s (.getOrInsert key v)).1.map = (s.insertKeepFirst key (insertedCell env key v s.next)).1.map ∧
    (step env fuel s (.getOrInsert key v)).1.out = s.out ∧
    (step env fuel s (.getOrInsert key v)).2 =
      .handle (s.insertKeepFirst key (insertedCell env key v s.next)).2.addr
        (s.insertKeepFirst key (insertedCell env key v s.next)).2.val := by
  simp only [step]
  unfold St.insertKeepFirst
  cases s.lookup key <;> exact ⟨rfl, rfl, rfl⟩

/-- key by key: the key holds what it held, or else the offered cell -/
theorem step_getOrInsert_lookup (env : Env) (fuel : Nat) (s : St) (key : Key) (v : Val) (k : Key) :
    (step env fuel s (.getOrInsert key v)).1.lookup k =
      if k = key then some ((s.lookup key).getD (insertedCell env key v s.next)) else s.lookup k :=
  (St.lookup_congr (step_getOrInsert_eq env fuel s key v).1 k).trans (St.insertKeepFirst_lookup s key k _)

theorem step_getOrInsert_out (env : Env) (fuel : Nat) (s : St) (key : Key) (v : Val) :
    (step env fuel s (.getOrInsert key v)).1.out = s.out :=
  (step_getOrInsert_eq env fuel s key v).2.1

/-- what `get_or_insert` adds is the offered cell -/
theorem step_getOrInsert_added (env : Env) (fuel : Nat) (s : St) (key : Key) (v : Val) {P : Key → Cell → Prop}
    (h : P key (insertedCell env key v s.next)) : Added P s (step env fuel s (.getOrInsert key v)).1 :=
  (Added.ins_cell s key _ h).trans (.of_map_eq (step_getOrInsert_eq env fuel s key v).1)

theorem step_remove_lookup (env : Env) (fuel : Nat) (s : St) (key k : Key) :
    (step env fuel s (.remove key)).1.lookup k = if k = key then none else s.lookup k :=
  lookup_removed s key k

theorem step_take_lookup (env : Env) (fuel : Nat) (s : St) (key k : Key) :
    (step env fuel s (.take key)).1.lookup k = if k = key then none else s.lookup k :=
  lookup_removed s key k

/-- `clear`: nothing is cached afterwards -/
theorem step_clear_lookup (env : Env) (fuel : Nat) (s : St) (k : Key) :
    (step env fuel s .clear).1.lookup k = none := rfl

/-- `clear`: the channel gets a `Clear` when the cache has a reloader -/
theorem step_clear_out (env : Env) (fuel : Nat) (s : St) :
    (step env fuel s .clear).1.out = if env.hasReloader then s.out ++ [.clear] else s.out := by
  simp only [step, St.release_out]
  split <;> rfl

/-- An operation that does not remove `k` leaves the cell stored under `k` alone. -/
theorem step_keeps (env : Env) (fuel : Nat) (s : St) (op : Op) (k : Key) (c : Cell)
    (hop : op.removes k = false) (h : s.lookup k = some c) : (step env fuel s op).1.lookup k = some c := by
  cases op with
  | load key => rw [step_load_fst]; exact evalTop_mono env fuel s _ k c h
  | loadOwned key => exact evalTop_mono env fuel s _ k c h
  | getCached key => exact h
  | contains key => exact h
  | getOrInsert key v =>
    exact (St.lookup_congr (step_getOrInsert_eq env fuel s key v).1 k).trans (St.insertKeepFirst_le s key _ k c h)
  | remove key => rw [step_remove_lookup, if_neg (fun e => of_decide_eq_false hop e.symm)]; exact h
  | take key => rw [step_take_lookup, if_neg (fun e => of_decide_eq_false hop e.symm)]; exact h
  | clear => cases hop

/-- Every cell stored after an API operation was stored before (same key, unchanged) or was created
by this operation. -/
theorem step_added (env : Env) (fuel : Nat) (s : St) (op : Op) (P) (hP : NewCellsSat env P) :
    Added P s (step env fuel s op).1 := by
  cases op with
  | load key => rw [step_load_fst]; exact evalTop_added env P hP fuel s _
  | loadOwned key => exact evalTop_added env P hP fuel s _
  | getCached key => exact Added.refl P s
  | contains key => exact Added.refl P s
  | getOrInsert key v => exact step_getOrInsert_added env fuel s key v (hP.2 key v s.next)
  | remove key => exact fun k c h => Or.inl (lookup_of_removed h)
  | take key => exact fun k c h => Or.inl (lookup_of_removed h)
  | clear => intro k c h; cases h

/-! ## `reloadUntyped` -/

/-- The evaluation `reload_untyped` performs: the type's loader under a fresh record, on the
reloader thread's own (empty) recording stack. -/
def reloadEval (env : Env) (fuel : Nat) (s : St) (key : Key) : St × Outcome × List Dep :=
  withFrame true (some []) (fun s => eval env fuel s ((env.types key.ty).prog key.id)) { s with recs := [] }

def ReloadOutcome.wrote : ReloadOutcome → Bool
  | .done (some (_, true)) => true
  | _ => false

/-- `St.Le` and `Added P` look at the map only: by unfolding, `s` may stand for `s` with its stack emptied. -/
theorem reloadEval_le (env : Env) (fuel : Nat) (s : St) (key : Key) : s.Le (reloadEval env fuel s key).1 :=
  (St.Le.evalRel env (fun _ => True)).withFrame true (some []) _ { s with recs := [] } fun s => eval_mono env fuel s _

theorem reloadEval_added (env : Env) (fuel : Nat) (s : St) (key : Key) (P) (hP : NewCellsSat env P) :
    Added P s (reloadEval env fuel s key).1 :=
  (Added.evalRel_all hP).withFrame true (some []) _ { s with recs := [] } fun s => eval_added env P hP fuel s _

/-- the written cell: `UntypedEntry::write` = swap the value, `reload.increment()`, `reload_global = true` -/
def Cell.written (c : Cell) (v : Val) : Cell := { c with val := v, rid := c.rid + 1, flag := true }

/-! `reload_untyped` by cases on what it finds: an absent key, a static cell that is skipped, or a cell whose
loader is evaluated. -/

theorem reloadUntyped_absent (env : Env) (fuel : Nat) (s : St) (key : Key) (h : s.lookup key = none) :
    reloadUntyped env fuel s key = (s, .done none) := by
  unfold reloadUntyped; rw [h]

theorem reloadUntyped_skipped (env : Env) (fuel : Nat) (s : St) (key : Key) (c : Cell) (hc : s.lookup key = some c)
    (h : (reloadSkipsStatic && !c.dyn) = true) : reloadUntyped env fuel s key = (s, .done none) := by
  unfold reloadUntyped; rw [hc]; exact if_pos h

/-- When `reload_untyped` skips static entries (`hs`: the regenerated flag, `true` for the current source; the callers
supply it, so that nothing here depends on its value), a key that is not cached, or cached in a static entry, is left alone. -/
theorem reloadUntyped_static {env : Env} {fuel : Nat} {s : St} {key : Key} (hs : reloadSkipsStatic = true)
    (h : ∀ c, s.lookup key = some c → c.dyn = false) : reloadUntyped env fuel s key = (s, .done none) := by
  cases hc : s.lookup key with
  | none => exact reloadUntyped_absent env fuel s key hc
  | some c => exact reloadUntyped_skipped env fuel s key c hc (by rw [hs, h c hc]; rfl)

/-- **The loader is evaluated (`reloadEval`) and its outcome decides.** `write` looks the key up again after
the evaluation; the cell is still the one that was there (`reloadEval_le`). -/
theorem reloadUntyped_evaluated (env : Env) (fuel : Nat) (s : St) (key : Key) (c : Cell) (hc : s.lookup key = some c)
    (h : ¬ (reloadSkipsStatic && !c.dyn) = true) :
    reloadUntyped env fuel s key =
      match reloadEval env fuel s key with
      | (s1, .ok v, deps) =>
        if c.dyn then ((s1.setCell key (c.written v)).swapValue key.ty c.addr, .done (some (deps, true)))
        else (s1.handOut key.ty, .died)
      | (s1, .err _, deps) => (s1, .done (if failedReloadKeepsNewDeps then some (deps, false) else none))
      | (s1, .panicked, _) => (s1, if reloadCatchesPanic then .done none else .died)
      | (s1, .diverged, _) => (s1, .died) := by
  have hle : (reloadEval env fuel s key).1.lookup key = some c := reloadEval_le env fuel s key key c hc
  -- `withFrame` puts the reloader thread's empty stack back itself
  have hrecs : ({ (reloadEval env fuel s key).1 with recs := [] } : St) = (reloadEval env fuel s key).1 := rfl
  unfold reloadUntyped
  rw [hc]
  dsimp only
  rw [if_neg h]
  unfold reloadEval at hle hrecs ⊢
  generalize withFrame true (some []) _ _ = r at hle hrecs ⊢
  obtain ⟨s1, o, deps⟩ := r
  dsimp only at hle hrecs ⊢
  rw [hrecs]
  cases o with
  | ok v => dsimp only; rw [hle]; rfl
  | panicked => dsimp only; cases reloadCatchesPanic <;> rfl
  | _ => rfl

/-- … for a dynamic cell -/
theorem reloadUntyped_dyn (env : Env) (fuel : Nat) (s : St) (key : Key) (c : Cell) (hc : s.lookup key = some c) (hd : c.dyn = true) :
    reloadUntyped env fuel s key =
      match reloadEval env fuel s key with
      | (s1, .ok v, deps) => ((s1.setCell key (c.written v)).swapValue key.ty c.addr, .done (some (deps, true)))
      | (s1, .err _, deps) => (s1, .done (if failedReloadKeepsNewDeps then some (deps, false) else none))
      | (s1, .panicked, _) => (s1, if reloadCatchesPanic then .done none else .died)
      | (s1, .diverged, _) => (s1, .died) := by
  rw [reloadUntyped_evaluated env fuel s key c hc (by rw [hd]; simp)]
  generalize reloadEval env fuel s key = y
  obtain ⟨s1, o, deps⟩ := y
  cases o with
  | ok v => exact if_pos hd
  | _ => rfl

/-- when static entries are skipped: the key holds a dynamic cell, or `reload_untyped` does nothing -/
theorem reloadUntyped_dyn_or (hs : reloadSkipsStatic = true) (env : Env) (fuel : Nat) (s : St) (key : Key) :
    (∃ c, s.lookup key = some c ∧ c.dyn = true) ∨ reloadUntyped env fuel s key = (s, .done none) := by
  cases hc : s.lookup key with
  | none => exact Or.inr (reloadUntyped_absent env fuel s key hc)
  | some c =>
    cases hd : c.dyn with
    | true => exact Or.inl ⟨c, rfl, hd⟩
    | false => exact Or.inr (reloadUntyped_static hs fun c' hc' => Option.some.inj (hc.symm.trans hc') ▸ hd)

/-- the key holds a cell whose loader `reload_untyped` evaluates, or nothing happens — whatever the regenerated
`reloadSkipsStatic` is -/
theorem reloadUntyped_evaluated_or (env : Env) (fuel : Nat) (s : St) (key : Key) :
    (∃ c, s.lookup key = some c ∧ ¬ (reloadSkipsStatic && !c.dyn) = true) ∨ reloadUntyped env fuel s key = (s, .done none) := by
  cases hc : s.lookup key with
  | none => exact Or.inr (reloadUntyped_absent env fuel s key hc)
  | some c =>
    by_cases h : (reloadSkipsStatic && !c.dyn) = true
    · exact Or.inr (reloadUntyped_skipped env fuel s key c hc h)
    · exact Or.inl ⟨c, rfl, h⟩

/-- **The two things `reload_untyped` can do**, whatever the three regenerated conditions are. With `s1` the cache
after the nested loads of the re-evaluation (`s ≤ s1`, everything new created by `newCell` / `insertedCell`): either
nothing more, and no reload is reported (also for a static cell that is not skipped: the thread gives up before the
write); or the loader returned `ok v`, the cell is dynamic, and exactly the key's cell is replaced by `c.written v`. -/
theorem reloadUntyped_cases (env : Env) (fuel : Nat) (s : St) (key : Key) :
    ∃ s1 : St, s.Le s1 ∧ (∀ P, NewCellsSat env P → Added P s s1) ∧
      (((reloadUntyped env fuel s key).2.wrote = false ∧ ∀ k, (reloadUntyped env fuel s key).1.lookup k = s1.lookup k) ∨
       (∃ c v, s.lookup key = some c ∧ c.dyn = true ∧ (reloadEval env fuel s key).2.1 = .ok v ∧
          (reloadUntyped env fuel s key).2.wrote = true ∧
          ∀ k, (reloadUntyped env fuel s key).1.lookup k = if k = key then some (c.written v) else s1.lookup k)) := by
  rcases reloadUntyped_evaluated_or env fuel s key with ⟨c, hc, hsk⟩ | e
  · refine ⟨(reloadEval env fuel s key).1, reloadEval_le env fuel s key, reloadEval_added env fuel s key, ?_⟩
    have hle := reloadEval_le env fuel s key key c hc
    rw [reloadUntyped_evaluated env fuel s key c hc hsk]
    generalize reloadEval env fuel s key = y at hle
    obtain ⟨s1, o, deps⟩ := y
    cases o with
    | ok v =>
      dsimp only
      by_cases hd : c.dyn = true
      · rw [if_pos hd]
        refine Or.inr ⟨c, v, hc, hd, rfl, rfl, fun k => ?_⟩
        rw [St.swapValue_lookup, St.setCell_lookup, hle]
        rfl
      · rw [if_neg hd]; exact Or.inl ⟨rfl, fun _ => rfl⟩
    | err e => exact Or.inl ⟨by dsimp only; cases failedReloadKeepsNewDeps <;> rfl, fun _ => rfl⟩
    | panicked => exact Or.inl ⟨by dsimp only; cases reloadCatchesPanic <;> rfl, fun _ => rfl⟩
    | diverged => exact Or.inl ⟨rfl, fun _ => rfl⟩
  · rw [e]
    exact ⟨s, St.Le.refl s, fun P _ => Added.refl P s, Or.inl ⟨rfl, fun _ => rfl⟩⟩

/-- `reload_untyped` never touches another key's cell. -/
theorem reloadUntyped_other (env : Env) (fuel : Nat) (s : St) (key : Key) (k : Key) (c : Cell) (hk : k ≠ key) (h : s.lookup k = some c) :
    (reloadUntyped env fuel s key).1.lookup k = some c := by
  obtain ⟨s1, hle, _, ⟨_, e⟩ | ⟨_, _, _, _, _, _, e⟩⟩ := reloadUntyped_cases env fuel s key
  · rw [e]; exact hle k c h
  · rw [e, if_neg hk]; exact hle k c h

/-- What `reload_untyped` adds (keys absent before) was created by `newCell` / `insertedCell`. -/
theorem reloadUntyped_added (env : Env) (fuel : Nat) (s : St) (key : Key) (P) (hP : NewCellsSat env P) (k : Key) (c : Cell)
    (h : (reloadUntyped env fuel s key).1.lookup k = some c) (habs : s.lookup k = none) : P k c := by
  obtain ⟨s1, _, hadd, ⟨_, e⟩ | ⟨c0, _, hc, _, _, _, e⟩⟩ := reloadUntyped_cases env fuel s key
  · rw [e] at h
    exact (hadd P hP).new h habs
  · rw [e, if_neg (fun e => by rw [e, hc] at habs; cases habs)] at h
    exact (hadd P hP).new h habs

/-! ## Evolution of cells -/

/-- `c'` is what `c` may have become through hot-reloading: the very same cell, or (only if it is
dynamic) a cell with a strictly larger reload id whose global flag is set. Kind and address never
change. -/
def Cell.Ev (c c' : Cell) : Prop :=
  c'.dyn = c.dyn ∧ c'.addr = c.addr ∧ (c' = c ∨ (c.dyn = true ∧ c.rid < c'.rid ∧ c'.flag = true))

theorem Cell.Ev.refl (c : Cell) : c.Ev c := ⟨rfl, rfl, Or.inl rfl⟩

theorem Cell.Ev.trans {a b c : Cell} (h1 : a.Ev b) (h2 : b.Ev c) : a.Ev c := by
  obtain ⟨d1, a1, e1⟩ := h1
  obtain ⟨d2, a2, e2⟩ := h2
  refine ⟨d2.trans d1, a2.trans a1, ?_⟩
  rcases e1 with rfl | ⟨hd, hr, hf⟩
  · exact e2
  · rcases e2 with rfl | ⟨hd2, hr2, hf2⟩
    · exact Or.inr ⟨hd, hr, hf⟩
    · exact Or.inr ⟨hd, Nat.lt_trans hr hr2, hf2⟩

theorem Cell.Ev.static {c c' : Cell} (h : c.Ev c') (hs : c.dyn = false) : c' = c := by
  rcases h.2.2 with e | ⟨hd, _, _⟩
  · exact e
  · rw [hs] at hd; cases hd

theorem Cell.Ev.rid_le {c c' : Cell} (h : c.Ev c') : c.rid ≤ c'.rid := by
  rcases h.2.2 with e | ⟨_, hr, _⟩
  · rw [e]; exact Nat.le_refl _
  · exact Nat.le_of_lt hr

theorem Cell.Ev.changed_rid_lt {c c' : Cell} (h : c.Ev c') (hne : c' ≠ c) : c.rid < c'.rid := by
  rcases h.2.2 with e | ⟨_, hr, _⟩
  · exact absurd e hne
  · exact hr

theorem Cell.ev_written (c : Cell) (v : Val) (hd : c.dyn = true) : c.Ev (c.written v) :=
  ⟨rfl, rfl, Or.inr ⟨hd, Nat.lt_succ_self _, rfl⟩⟩

/-- Every cell of `s` is still stored in `t`, under the same key, evolved. -/
def St.Ev (s t : St) : Prop := ∀ k c, s.lookup k = some c → ∃ c', t.lookup k = some c' ∧ c.Ev c'

theorem St.Ev.refl (s : St) : s.Ev s := fun _ c h => ⟨c, h, Cell.Ev.refl c⟩

theorem St.Ev.trans {a b c : St} (h1 : a.Ev b) (h2 : b.Ev c) : a.Ev c := by
  intro k x hx
  obtain ⟨y, hy, e1⟩ := h1 k x hx
  obtain ⟨z, hz, e2⟩ := h2 k y hy
  exact ⟨z, hz, e1.trans e2⟩

theorem St.Le.ev {s t : St} (h : s.Le t) : s.Ev t := fun k c hc => ⟨c, h k c hc, Cell.Ev.refl c⟩

theorem St.Ev.of_map_eq {s t : St} (e : t.map = s.map) : s.Ev t := (St.Le.of_map_eq e).ev

theorem St.Ev.static {s t : St} (h : s.Ev t) {k : Key} {c : Cell} (hc : s.lookup k = some c) (hs : c.dyn = false) :
    t.lookup k = some c := by
  obtain ⟨c', h1, e⟩ := h k c hc
  rw [h1, e.static hs]

theorem reloadUntyped_ev (env : Env) (fuel : Nat) (s : St) (key : Key) : s.Ev (reloadUntyped env fuel s key).1 := by
  obtain ⟨s1, hle, _, ⟨_, e⟩ | ⟨c0, v, hc, hd, _, _, e⟩⟩ := reloadUntyped_cases env fuel s key
  · intro k c h; rw [e]; exact ⟨c, hle k c h, Cell.Ev.refl c⟩
  · intro k c h
    rw [e]
    split
    · next hk => rw [hk, hc] at h; cases h; exact ⟨_, rfl, Cell.ev_written c0 v hd⟩
    · exact ⟨c, hle k c h, Cell.Ev.refl c⟩

/-! ## `reloadAll` -/

theorem reloadAll_dead (env : Env) (fuel : Nat) (ks : List Key) (s : St) (r : RSt) (h : r.dead = true) :
    reloadAll env fuel ks (s, r) = (s, r) := by
  cases ks with
  | nil => rfl
  | cons k ks => simp [reloadAll, h]

/-- what `DepsGraph::reload` does to the reloader's data with the outcome of `reload_untyped` -/
def RSt.noteReload (r : RSt) (k : Key) : ReloadOutcome → RSt
  | .done (some (deps, true)) => { r with graph := r.graph.insertAsset (.asset k) deps }
  | .done (some (deps, false)) => { r with graph := r.graph.addDeps (.asset k) deps }
  | .done none => r
  | .died => { r with dead := true }

theorem RSt.noteReload_toReload (r : RSt) (k : Key) (o : ReloadOutcome) : (r.noteReload k o).toReload = r.toReload := by
  unfold RSt.noteReload; split <;> rfl

theorem RSt.noteReload_static (r : RSt) (k : Key) (o : ReloadOutcome) : (r.noteReload k o).static_ = r.static_ := by
  unfold RSt.noteReload; split <;> rfl

/-- the pass re-evaluates `k`: the thread is alive and `k` is a registered node of the graph -/
def RSt.Reloads (r : RSt) (k : Key) : Prop := r.dead = false ∧ ∃ node, r.graph.get (.asset k) = some node ∧ node.typed = true

/-- **One key of a pass**: `reload_untyped` and the graph update its outcome asks for, or nothing. -/
theorem reloadAll_cons (env : Env) (fuel : Nat) (k : Key) (ks : List Key) (s : St) (r : RSt) :
    (r.Reloads k ∧ reloadAll env fuel (k :: ks) (s, r) =
        reloadAll env fuel ks ((reloadUntyped env fuel s k).1, r.noteReload k (reloadUntyped env fuel s k).2)) ∨
    (¬ r.Reloads k ∧ reloadAll env fuel (k :: ks) (s, r) = reloadAll env fuel ks (s, r)) := by
  rw [reloadAll]
  by_cases hd : r.dead = true
  · rw [if_pos hd]
    refine Or.inr ⟨fun h => ?_, (reloadAll_dead env fuel ks s r hd).symm⟩
    rw [h.1] at hd; cases hd
  · rw [if_neg hd]
    cases hg : r.graph.get (.asset k) with
    | none => exact Or.inr ⟨fun ⟨_, _, h, _⟩ => (by rw [hg] at h; cases h), rfl⟩
    | some node =>
      dsimp only
      cases ht : node.typed with
      | false =>
        refine Or.inr ⟨fun ⟨_, _, h, h'⟩ => ?_, rfl⟩
        rw [hg] at h; cases h; rw [ht] at h'; cases h'
      | true =>
        refine Or.inl ⟨⟨Bool.eq_false_iff.2 hd, node, hg, ht⟩, ?_⟩
        rw [if_pos rfl]
        generalize reloadUntyped env fuel s k = x
        obtain ⟨s1, o⟩ := x
        cases o with
        | died => exact (reloadAll_dead env fuel ks s1 _ rfl).symm
        | done d =>
          cases d with
          | none => rfl
          | some p => obtain ⟨deps, b⟩ := p; cases b <;> rfl

/-- Invariants of a pass: what every re-evaluation with its graph update keeps, the pass keeps. -/
theorem reloadAll_inv (env : Env) (fuel : Nat) (I : St × RSt → Prop)
    (hstep : ∀ s r k, I (s, r) → r.Reloads k → I ((reloadUntyped env fuel s k).1, r.noteReload k (reloadUntyped env fuel s k).2)) :
    ∀ keys s r, I (s, r) → I (reloadAll env fuel keys (s, r)) := by
  intro keys
  induction keys with
  | nil => intro s r h; exact h
  | cons k ks ih =>
    intro s r h
    rcases reloadAll_cons env fuel k ks s r with ⟨hr, e⟩ | ⟨_, e⟩
    · rw [e]; exact ih _ _ (hstep s r k h hr)
    · rw [e]; exact ih s r h

/-- a pass is the iteration of its one-key step -/
theorem reloadAll_cons_eq (env : Env) (fuel : Nat) (k : Key) (ks : List Key) (x : St × RSt) :
    reloadAll env fuel (k :: ks) x = reloadAll env fuel ks (reloadAll env fuel [k] x) := by
  obtain ⟨s, r⟩ := x
  rcases reloadAll_cons env fuel k ks s r with ⟨hr, e⟩ | ⟨hr, e⟩
  · rw [e, ((reloadAll_cons env fuel k [] s r).resolve_right (fun h => h.1 hr)).2]; rfl
  · rw [e, ((reloadAll_cons env fuel k [] s r).resolve_left (fun h => hr h.1)).2]; rfl

theorem reloadAll_ev (env : Env) (fuel : Nat) (keys : List Key) (s : St) (r : RSt) : s.Ev (reloadAll env fuel keys (s, r)).1 :=
  reloadAll_inv env fuel (fun x => s.Ev x.1) (fun s' _ k h _ => h.trans (reloadUntyped_ev env fuel s' k)) keys s r (St.Ev.refl s)

/-- a pass touches neither the set of changed entries nor the mode -/
theorem reloadAll_keeps_mode (env : Env) (fuel : Nat) (keys : List Key) (s : St) (r : RSt) :
    (reloadAll env fuel keys (s, r)).2.toReload = r.toReload ∧
    (reloadAll env fuel keys (s, r)).2.static_ = r.static_ :=
  reloadAll_inv env fuel (fun x => x.2.toReload = r.toReload ∧ x.2.static_ = r.static_)
    (fun _ r' k h _ => ⟨(r'.noteReload_toReload k _).trans h.1, (r'.noteReload_static k _).trans h.2⟩) keys s r ⟨rfl, rfl⟩

/-- A pass only touches cells of the keys it was given. -/
theorem reloadAll_frame (env : Env) (fuel : Nat) (keys : List Key) (s : St) (r : RSt) (k : Key) (c : Cell) (hk : k ∉ keys) (h : s.lookup k = some c) :
    (reloadAll env fuel keys (s, r)).1.lookup k = some c := by
  induction keys generalizing s r with
  | nil => exact h
  | cons k0 ks ih =>
    have hks : k ∉ ks := fun m => hk (List.mem_cons_of_mem _ m)
    rcases reloadAll_cons env fuel k0 ks s r with ⟨_, e⟩ | ⟨_, e⟩
    · rw [e]; exact ih _ _ hks (reloadUntyped_other env fuel s k0 k c (fun e => hk (e ▸ List.mem_cons_self)) h)
    · rw [e]; exact ih s r hks h

theorem newCells_never (env : Env) : NewCellsSat env (fun _ c => c.rid = ReloadId_NEVER) := ⟨fun _ _ _ => rfl, fun _ _ _ => rfl⟩

theorem reloadUntyped_ridOf_le (env : Env) (fuel : Nat) (s : St) (key : Key) (k : Key) (c' : Cell)
    (h : (reloadUntyped env fuel s key).1.lookup k = some c') : c'.rid ≤ s.ridOf k + 1 := by
  unfold St.ridOf
  cases hk : s.lookup k with
  | none => rw [reloadUntyped_added env fuel s key _ (newCells_never env) k c' h hk]; exact Nat.le_succ _
  | some c =>
    obtain ⟨s1, hle, _, ⟨_, e⟩ | ⟨c0, v, hc, _, _, _, e⟩⟩ := reloadUntyped_cases env fuel s key
    · rw [e, hle k c hk] at h; cases h; exact Nat.le_succ _
    · rw [e] at h
      split at h
      · next hkk => rw [hkk, hc] at hk; cases hk; cases h; exact Nat.le_refl _
      · rw [hle k c hk] at h; cases h; exact Nat.le_succ _

theorem reloadUntyped_ridOf_other (env : Env) (fuel : Nat) (s : St) (key : Key) (k : Key) (hk : k ≠ key) :
    (reloadUntyped env fuel s key).1.ridOf k = s.ridOf k := by
  unfold St.ridOf
  cases hs : s.lookup k with
  | some c => rw [reloadUntyped_other env fuel s key k c hk hs]
  | none =>
    cases h1 : (reloadUntyped env fuel s key).1.lookup k with
    | none => rfl
    | some c1 => exact reloadUntyped_added env fuel s key _ (newCells_never env) k c1 h1 hs

/-- **At most one write per key and pass**: with a duplicate-free key list every reload id after
the pass is at most one more than before (`ridOf` = `NEVER` for keys that were absent). -/
theorem reloadAll_rid_le_succ (env : Env) (fuel : Nat) (keys : List Key) (s : St) (r : RSt) (hnd : keys.Nodup) (k : Key) (c' : Cell)
    (h : (reloadAll env fuel keys (s, r)).1.lookup k = some c') : c'.rid ≤ s.ridOf k + 1 := by
  induction keys generalizing s r with
  | nil => simp only [St.ridOf, show s.lookup k = some c' from h]; exact Nat.le_succ _
  | cons k0 ks ih =>
    have hnd' := List.nodup_cons.mp hnd
    rcases reloadAll_cons env fuel k0 ks s r with ⟨_, e⟩ | ⟨_, e⟩
    · rw [e] at h
      have ih' := ih _ _ hnd'.2 h
      by_cases hkk : k = k0
      · subst hkk
        cases hs : s.lookup k with
        | none => rw [reloadUntyped_absent env fuel s k hs] at ih'; exact ih'
        | some c =>
          -- `k` is not reloaded again: the rest of the pass leaves its cell as this reload left it
          obtain ⟨c1, hc1, _⟩ := reloadUntyped_ev env fuel s k k c hs
          rw [reloadAll_frame env fuel ks _ _ k c1 hnd'.1 hc1] at h
          cases h
          exact reloadUntyped_ridOf_le env fuel s k k c' hc1
      · rw [reloadUntyped_ridOf_other env fuel s k0 k hkk] at ih'; exact ih'
    · rw [e] at h; exact ih _ _ hnd'.2 h

/-! ## Invariants of stored cells -/

/-- every stored cell satisfies `I` -/
def St.All (I : Key → Cell → Prop) (s : St) : Prop := ∀ k c, s.lookup k = some c → I k c

/-- `I` survives a `write` -/
def WriteStable (I : Key → Cell → Prop) : Prop := ∀ k c v, I k c → c.dyn = true → I k (c.written v)

theorem St.All.of_added {I : Key → Cell → Prop} {s t : St} (hs : s.All I) (h : Added I s t) : t.All I :=
  fun k c hc => (h k c hc).elim (hs k c) id

theorem reloadUntyped_all (env : Env) (fuel : Nat) (s : St) (key : Key) (I) (hw : WriteStable I)
    (hn : NewCellsSat env I) (hs : s.All I) : (reloadUntyped env fuel s key).1.All I := by
  obtain ⟨s1, _, hadd, ⟨_, e⟩ | ⟨c0, v, hc, hd, _, _, e⟩⟩ := reloadUntyped_cases env fuel s key
  · intro k c h; rw [e] at h; exact hs.of_added (hadd I hn) k c h
  · intro k c h
    rw [e] at h
    split at h
    · next hk => cases h; exact hw k c0 v (hs k c0 (hk ▸ hc)) hd
    · exact hs.of_added (hadd I hn) k c h

theorem step_all (env : Env) (fuel : Nat) (s : St) (op : Op) (I) (hP : NewCellsSat env I) (hs : s.All I) :
    (step env fuel s op).1.All I :=
  hs.of_added (step_added env fuel s op I hP)

end AmVerif.Model
