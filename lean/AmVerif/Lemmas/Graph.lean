import AmVerif.Model.Reload
import AmVerif.Lemmas.Assoc
/-!
# Maintenance of the dependency graph (`Graph.insertAsset`, `Graph.addDeps`)

The lemmas and the example graph `gEx` are in the namespace `AmVerif.Lemmas.TopoGraph`, which
`Lemmas/TopoGraph.lean` continues.

* `Graph.node`: the graph as a total map (a key without a node has the empty node, the
  `or_default()` of `DepsGraph::insert`); `node_insertAsset` / `isSome_insertAsset` and
  `node_addDeps` / `isSome_addDeps` say what the two maintenance operations do to every node and
  which keys have one; `deps_insertAsset`, `mem_rdeps_insertAsset`, … read the fields off;
* `Graph.Inverse` (every forward edge has its backward edge) and `Graph.InverseRev` (every backward
  edge has its forward edge): hold for `[]`, preserved by `Graph.insertAsset` (both) and by
  `Graph.addDeps` (`Inverse` always; `InverseRev` if the asset has a node, and not otherwise:
  `inverseRev_addDeps_needs_node`);
* `Graph.OnlyAt`: both operations leave `typed` / `deps` of every node but the asset's as they were
  (`onlyAt_insertAsset`, `onlyAt_addDeps`).
-/
namespace AmVerif.Model

/-- every forward edge (`d ∈ deps a`) has its backward edge (`a ∈ rdeps d`) -/
def Graph.Inverse (g : Graph) : Prop :=
  ∀ a d, (∃ n, g.get a = some n ∧ d ∈ n.deps) → (∃ m, g.get d = some m ∧ a ∈ m.rdeps)

/-- every backward edge (`a ∈ rdeps d`) has its forward edge (`d ∈ deps a`) -/
def Graph.InverseRev (g : Graph) : Prop :=
  ∀ d a, (∃ m, g.get d = some m ∧ a ∈ m.rdeps) → (∃ n, g.get a = some n ∧ d ∈ n.deps)

/-- the node of `d`; the empty node (untyped, no edges) if `d` has none -/
def Graph.node (g : Graph) (d : Dep) : GNode := (g.get d).getD {}

/-- `g'` has the `typed` / `deps` of `g` at every node but that of `a` -/
def Graph.OnlyAt (g g' : Graph) (a : Dep) : Prop :=
  ∀ x, x ≠ a → (g'.node x).typed = (g.node x).typed ∧ (g'.node x).deps = (g.node x).deps

end AmVerif.Model

namespace AmVerif.Lemmas.TopoGraph
open AmVerif.Model

/-! ## `Graph.get` / `Graph.set` -/

@[simp] theorem get_nil (d : Dep) : Graph.get [] d = none := rfl

theorem get_cons (x : Dep × GNode) (g : Graph) (d : Dep) :
    Graph.get (x :: g) d = if x.1 = d then some x.2 else Graph.get g d := by
  unfold Graph.get
  by_cases h : x.1 = d <;> simp [h]

theorem any_eq_isSome (g : Graph) (d : Dep) : g.any (·.1 = d) = (g.get d).isSome := by
  rw [Graph.get, Option.isSome_map, Bool.eq_iff_iff, List.any_eq_true, List.find?_isSome]

theorem get_some_mem {g : Graph} {a : Dep} {n : GNode} (h : g.get a = some n) : (a, n) ∈ g :=
  Assoc.mem_of_find h

theorem get_set (g : Graph) (d : Dep) (n : GNode) (d' : Dep) :
    (g.set d n).get d' = if d' = d then some n else g.get d' := by
  unfold Graph.set
  rw [any_eq_isSome]
  cases hg : g.get d with
  | none => exact Assoc.find_append hg d' n
  | some m =>
    refine (Assoc.find_update g d d' n).trans ?_
    rw [show (g.find? (·.1 = d)).map (·.2) = some m from hg]; rfl

/-! ## The graph as a total map -/

theorem node_of_get {g : Graph} {d : Dep} {n : GNode} (h : g.get d = some n) : g.node d = n := by
  rw [Graph.node, h]; rfl

theorem node_of_none {g : Graph} {d : Dep} (h : g.get d = none) : g.node d = {} := by
  rw [Graph.node, h]; rfl

/-- a property that the empty node does not have holds of `g.node d` iff `d` has a node with it -/
theorem node_iff {P : GNode → Prop} (h0 : ¬ P {}) (g : Graph) (d : Dep) :
    P (g.node d) ↔ ∃ n, g.get d = some n ∧ P n := by
  unfold Graph.node
  cases g.get d with
  | none => exact ⟨fun h => absurd h h0, fun ⟨_, e, _⟩ => nomatch e⟩
  | some n => exact ⟨fun h => ⟨n, rfl, h⟩, fun ⟨_, e, h⟩ => Option.some.inj e ▸ h⟩

theorem mem_node_deps (g : Graph) (a d : Dep) : d ∈ (g.node a).deps ↔ ∃ n, g.get a = some n ∧ d ∈ n.deps :=
  node_iff (P := fun n => d ∈ n.deps) List.not_mem_nil g a

theorem mem_node_rdeps (g : Graph) (d a : Dep) : a ∈ (g.node d).rdeps ↔ ∃ m, g.get d = some m ∧ a ∈ m.rdeps :=
  node_iff (P := fun n => a ∈ n.rdeps) List.not_mem_nil g d

theorem node_typed_iff (g : Graph) (d : Dep) : (g.node d).typed = true ↔ ∃ n, g.get d = some n ∧ n.typed = true :=
  node_iff (P := fun n => n.typed = true) Bool.noConfusion g d

theorem inverse_iff (g : Graph) : g.Inverse ↔ ∀ a d, d ∈ (g.node a).deps → a ∈ (g.node d).rdeps := by
  simp only [Graph.Inverse, mem_node_deps, mem_node_rdeps]

theorem inverseRev_iff (g : Graph) : g.InverseRev ↔ ∀ d a, a ∈ (g.node d).rdeps → d ∈ (g.node a).deps := by
  simp only [Graph.InverseRev, mem_node_deps, mem_node_rdeps]

theorem node_set (g : Graph) (d : Dep) (n : GNode) (x : Dep) :
    (g.set d n).node x = if x = d then n else g.node x := by
  unfold Graph.node; rw [get_set]; split <;> rfl

theorem isSome_set (g : Graph) (d : Dep) (n : GNode) (x : Dep) :
    ((g.set d n).get x).isSome ↔ (g.get x).isSome ∨ x = d := by
  rw [get_set]; split <;> simp [*]

/-! ## The two edge updates of `DepsGraph::insert`

`addR a g d` is `entry(d).or_default().rdeps.insert(a)`, `rmR a g d` is `rdeps.remove(a)` on
`get_mut(d)` if that is a node; `bump` / `strip` are what they do to the node. -/

def bump (a : Dep) (n : GNode) : GNode := { n with rdeps := addIfAbsent a n.rdeps }
def strip (a : Dep) (n : GNode) : GNode := { n with rdeps := n.rdeps.filter (· ≠ a) }
def addR (a : Dep) (g : Graph) (d : Dep) : Graph := g.set d (bump a (g.node d))
def rmR (a : Dep) (g : Graph) (d : Dep) : Graph :=
  match g.get d with
  | some n => g.set d (strip a n)
  | none => g

theorem mem_addIfAbsent (d y : Dep) (l : List Dep) : y ∈ addIfAbsent d l ↔ y = d ∨ y ∈ l := by
  unfold addIfAbsent
  by_cases h : d ∈ l
  · simp [h]; intro e; subst e; exact h
  · simp [h, or_comm]

theorem bump_bump (a : Dep) (n : GNode) : bump a (bump a n) = bump a n := by
  simp only [bump, addIfAbsent]
  by_cases h : a ∈ n.rdeps <;> simp [h]

theorem strip_strip (a : Dep) (n : GNode) : strip a (strip a n) = strip a n := by
  simp [strip]

@[simp] theorem bump_deps (a : Dep) (n : GNode) : (bump a n).deps = n.deps := rfl
@[simp] theorem strip_deps (a : Dep) (n : GNode) : (strip a n).deps = n.deps := rfl
@[simp] theorem bump_typed (a : Dep) (n : GNode) : (bump a n).typed = n.typed := rfl
@[simp] theorem strip_typed (a : Dep) (n : GNode) : (strip a n).typed = n.typed := rfl
@[simp] theorem mem_bump_rdeps (a y : Dep) (n : GNode) : y ∈ (bump a n).rdeps ↔ y = a ∨ y ∈ n.rdeps :=
  mem_addIfAbsent a y n.rdeps
@[simp] theorem mem_strip_rdeps (a y : Dep) (n : GNode) : y ∈ (strip a n).rdeps ↔ y ∈ n.rdeps ∧ y ≠ a := by
  simp [strip]

theorem get_addR (a : Dep) (g : Graph) (d x : Dep) :
    (addR a g d).get x = if x = d then some (bump a (g.node d)) else g.get x :=
  get_set g d _ x

theorem node_addR (a : Dep) (g : Graph) (d x : Dep) :
    (addR a g d).node x = if x = d then bump a (g.node d) else g.node x :=
  node_set g d _ x

theorem get_addR_fold (a : Dep) (deps : List Dep) : ∀ (g : Graph) (x : Dep),
    (deps.foldl (addR a) g).get x = if x ∈ deps then some (bump a (g.node x)) else g.get x := by
  induction deps with
  | nil => intro g x; simp
  | cons d ds ih =>
    intro g x
    rw [List.foldl_cons, ih]
    simp only [get_addR, node_addR, List.mem_cons]
    by_cases hxd : x = d
    · subst hxd; by_cases hx : x ∈ ds <;> simp [hx, bump_bump]
    · by_cases hx : x ∈ ds <;> simp [hx, hxd]

theorem get_rmR (a : Dep) (g : Graph) (d x : Dep) :
    (rmR a g d).get x = if x = d then (g.get x).map (strip a) else g.get x := by
  unfold rmR
  cases h : g.get d with
  | none => by_cases hx : x = d <;> simp [hx, h]
  | some n => simp only [get_set]; by_cases hx : x = d <;> simp [hx, h]

theorem get_rmR_fold (a : Dep) (ds : List Dep) : ∀ (g : Graph) (x : Dep),
    (ds.foldl (rmR a) g).get x = if x ∈ ds then (g.get x).map (strip a) else g.get x := by
  induction ds with
  | nil => intro g x; simp
  | cons d ds ih =>
    intro g x
    rw [List.foldl_cons, ih]
    simp only [get_rmR, List.mem_cons]
    by_cases hxd : x = d
    · subst hxd; by_cases hx : x ∈ ds <;> simp [hx, strip_strip, Function.comp_def]
    · by_cases hx : x ∈ ds <;> simp [hx, hxd]

/-! ## `insertAsset` and `addDeps`, node by node -/

/-- the node of `x` after the reverse-edge insertions of `insertAsset a deps` / `addDeps a deps` -/
def bumped (a : Dep) (deps : List Dep) (x : Dep) (n : GNode) : GNode := if x ∈ deps then bump a n else n

/-- what `insertAsset a deps` then does to that node; `old` is the node of `a` (only its `deps`
matter: the reverse edge is removed from those that are no longer dependencies) -/
def insT (a : Dep) (deps : List Dep) (old : GNode) (x : Dep) (m1 : GNode) : GNode :=
  let m2 := if x = a then { m1 with deps := deps, typed := true } else m1
  if x ∈ old.deps.filter (fun d => d ∉ deps) then strip a m2 else m2

/-- `Graph.insertAsset` in terms of `addR` / `rmR` -/
theorem insertAsset_eq (g : Graph) (a : Dep) (deps : List Dep) : g.insertAsset a deps =
    match (deps.foldl (addR a) g).get a with
    | none => (deps.foldl (addR a) g).set a { typed := true, deps := deps, rdeps := [] }
    | some old => (old.deps.filter (fun d => d ∉ deps)).foldl (rmR a)
        ((deps.foldl (addR a) g).set a { old with deps := deps, typed := true }) := rfl

theorem addDeps_eq (g : Graph) (a : Dep) (deps : List Dep) : g.addDeps a deps =
    match (deps.foldl (addR a) g).get a with
    | some n => (deps.foldl (addR a) g).set a { n with deps := deps.foldl (fun l d => addIfAbsent d l) n.deps }
    | none => deps.foldl (addR a) g := rfl

section
variable {g : Graph} {a : Dep} {deps : List Dep}

@[simp] theorem bumped_deps (x : Dep) (n : GNode) : (bumped a deps x n).deps = n.deps := by
  unfold bumped; split <;> rfl
@[simp] theorem bumped_typed (x : Dep) (n : GNode) : (bumped a deps x n).typed = n.typed := by
  unfold bumped; split <;> rfl
theorem mem_bumped_rdeps (x y : Dep) (n : GNode) :
    y ∈ (bumped a deps x n).rdeps ↔ (y = a ∧ x ∈ deps) ∨ y ∈ n.rdeps := by
  unfold bumped; split <;> simp [*]

theorem insT_deps {old : GNode} (x : Dep) (m1 : GNode) :
    (insT a deps old x m1).deps = if x = a then deps else m1.deps := by
  simp only [insT, apply_ite GNode.deps, strip_deps, ite_self]

theorem insT_typed {old : GNode} (x : Dep) (m1 : GNode) :
    (insT a deps old x m1).typed = (decide (x = a) || m1.typed) := by
  simp only [insT, apply_ite GNode.typed, strip_typed, ite_self]
  by_cases h : x = a <;> simp [h]

theorem mem_ite_strip (c : Prop) [Decidable c] (y : Dep) (n : GNode) :
    y ∈ (if c then strip a n else n).rdeps ↔ y ∈ n.rdeps ∧ (c → y ≠ a) := by
  split <;> simp [*]

theorem mem_insT_rdeps {old : GNode} {x y : Dep} (m1 : GNode) :
    y ∈ (insT a deps old x m1).rdeps ↔ y ∈ m1.rdeps ∧ (y = a → x ∈ old.deps → x ∈ deps) := by
  have h2 : (if x = a then { m1 with deps := deps, typed := true } else m1).rdeps = m1.rdeps := by
    split <;> rfl
  unfold insT
  rw [mem_ite_strip, h2, List.mem_filter, decide_eq_true_eq]
  exact and_congr_right fun _ =>
    ⟨fun h e hx => Decidable.byContradiction fun hd => h ⟨hx, hd⟩ e, fun h hx e => hx.2 (h e hx.1)⟩

theorem node_addR_fold (x : Dep) : (deps.foldl (addR a) g).node x = bumped a deps x (g.node x) := by
  unfold Graph.node bumped; rw [get_addR_fold]; split <;> rfl

theorem isSome_addR_fold (x : Dep) :
    ((deps.foldl (addR a) g).get x).isSome ↔ (g.get x).isSome ∨ x ∈ deps := by
  rw [get_addR_fold]; split <;> simp [*]

theorem node_rmR_fold (ds : List Dep) (x : Dep) :
    (ds.foldl (rmR a) g).node x = if x ∈ ds then strip a (g.node x) else g.node x := by
  unfold Graph.node; rw [get_rmR_fold]; split
  · cases g.get x <;> rfl
  · rfl

theorem isSome_rmR_fold (ds : List Dep) (x : Dep) :
    ((ds.foldl (rmR a) g).get x).isSome ↔ (g.get x).isSome := by
  rw [get_rmR_fold]; split <;> simp

end

theorem node_insertAsset (g : Graph) (a : Dep) (deps : List Dep) (x : Dep) :
    (g.insertAsset a deps).node x = insT a deps (g.node a) x (bumped a deps x (g.node x)) := by
  -- both sides in terms of the graph `g1` after the reverse-edge insertions
  have hold : (g.node a).deps = ((deps.foldl (addR a) g).node a).deps := by rw [node_addR_fold, bumped_deps]
  rw [insertAsset_eq, ← node_addR_fold, insT, hold]
  generalize deps.foldl (addR a) g = g1
  cases h : g1.get a with
  | none =>
    rw [node_of_none h, node_set]
    by_cases hx : x = a
    · subst hx; rw [node_of_none h]; rfl
    · simp only [hx, if_false]; rfl
  | some old =>
    rw [node_of_get h, node_rmR_fold, node_set]
    by_cases hx : x = a
    · subst hx; rw [node_of_get h]
    · simp only [hx, if_false]

/-- the keys that have a node after `insertAsset` -/
theorem isSome_insertAsset (g : Graph) (a : Dep) (deps : List Dep) (x : Dep) :
    ((g.insertAsset a deps).get x).isSome ↔ (g.get x).isSome ∨ x ∈ deps ∨ x = a := by
  rw [insertAsset_eq]
  cases (deps.foldl (addR a) g).get a with
  | none => rw [isSome_set, isSome_addR_fold, or_assoc]
  | some old => rw [isSome_rmR_fold, isSome_set, isSome_addR_fold, or_assoc]

theorem mem_foldl_addIfAbsent (d : Dep) (deps : List Dep) : ∀ l0 : List Dep,
    d ∈ deps.foldl (fun l d => addIfAbsent d l) l0 ↔ d ∈ l0 ∨ d ∈ deps := by
  induction deps with
  | nil => simp
  | cons x xs ih => intro l0; rw [List.foldl_cons, ih, mem_addIfAbsent, List.mem_cons, or_assoc, or_left_comm]

/-- the forward edges are recorded only if `a` has a node once the reverse edges are in -/
theorem node_addDeps (g : Graph) (a : Dep) (deps : List Dep) (x : Dep) :
    (g.addDeps a deps).node x =
      { bumped a deps x (g.node x) with deps :=
          if x = a ∧ ((g.get a).isSome ∨ a ∈ deps) then deps.foldl (fun l d => addIfAbsent d l) (g.node x).deps
          else (g.node x).deps } := by
  rw [addDeps_eq]
  cases h : (deps.foldl (addR a) g).get a with
  | none =>
    have hn : ¬ ((g.get a).isSome ∨ a ∈ deps) := fun hs => by
      rw [← isSome_addR_fold (a := a), h] at hs; cases hs
    rw [if_neg (fun hx => hn hx.2), ← bumped_deps (a := a) (deps := deps) x, node_addR_fold]
  | some n =>
    have hs : (g.get a).isSome ∨ a ∈ deps := (isSome_addR_fold a).mp (by rw [h]; rfl)
    rw [node_set, node_addR_fold]
    by_cases hx : x = a
    · subst hx; rw [if_pos rfl, if_pos ⟨rfl, hs⟩, ← node_of_get h, node_addR_fold, bumped_deps]
    · rw [if_neg hx, if_neg (fun h => hx h.1), ← bumped_deps (a := a) (deps := deps) x]

/-- the keys that have a node after `addDeps` -/
theorem isSome_addDeps (g : Graph) (a : Dep) (deps : List Dep) (x : Dep) :
    ((g.addDeps a deps).get x).isSome ↔ (g.get x).isSome ∨ x ∈ deps := by
  rw [addDeps_eq]
  cases h : (deps.foldl (addR a) g).get a with
  | none => exact isSome_addR_fold x
  | some n =>
    rw [isSome_set, isSome_addR_fold]
    exact or_iff_left_of_imp fun hx => hx ▸ (isSome_addR_fold a).mp (by rw [h]; rfl)

/-! ### the edges after the two operations -/

theorem deps_insertAsset (g : Graph) (a : Dep) (deps : List Dep) (x : Dep) :
    ((g.insertAsset a deps).node x).deps = if x = a then deps else (g.node x).deps := by
  rw [node_insertAsset, insT_deps, bumped_deps]

theorem typed_insertAsset (g : Graph) (a : Dep) (deps : List Dep) (x : Dep) :
    ((g.insertAsset a deps).node x).typed = (decide (x = a) || (g.node x).typed) := by
  rw [node_insertAsset, insT_typed, bumped_typed]

theorem mem_rdeps_insertAsset (g : Graph) (a : Dep) (deps : List Dep) (x y : Dep) :
    y ∈ ((g.insertAsset a deps).node x).rdeps ↔
      ((y = a ∧ x ∈ deps) ∨ y ∈ (g.node x).rdeps) ∧ (y = a → x ∈ (g.node a).deps → x ∈ deps) := by
  rw [node_insertAsset, mem_insT_rdeps, mem_bumped_rdeps]

theorem mem_deps_addDeps (g : Graph) (a : Dep) (deps : List Dep) (x d : Dep) :
    d ∈ ((g.addDeps a deps).node x).deps ↔
      d ∈ (g.node x).deps ∨ (x = a ∧ ((g.get a).isSome ∨ a ∈ deps) ∧ d ∈ deps) := by
  rw [node_addDeps]; split
  · rename_i h; simp only [mem_foldl_addIfAbsent, h, true_and]
  · rename_i h; exact ⟨Or.inl, fun h' => h'.elim id fun ⟨h1, h2, _⟩ => absurd ⟨h1, h2⟩ h⟩

theorem typed_addDeps (g : Graph) (a : Dep) (deps : List Dep) (x : Dep) :
    ((g.addDeps a deps).node x).typed = (g.node x).typed := by
  rw [node_addDeps]; exact bumped_typed x _

theorem mem_rdeps_addDeps (g : Graph) (a : Dep) (deps : List Dep) (x y : Dep) :
    y ∈ ((g.addDeps a deps).node x).rdeps ↔ (y = a ∧ x ∈ deps) ∨ y ∈ (g.node x).rdeps := by
  rw [node_addDeps, ← mem_bumped_rdeps]

/-! ### `rdeps` stays the inverse of `deps` -/

theorem inverse_insertAsset {g : Graph} (hI : g.Inverse) (a : Dep) (deps : List Dep) : (g.insertAsset a deps).Inverse := by
  rw [inverse_iff] at hI ⊢
  intro x d hd
  rw [deps_insertAsset] at hd
  rw [mem_rdeps_insertAsset]
  by_cases hx : x = a
  · rw [if_pos hx] at hd; exact ⟨Or.inl ⟨hx, hd⟩, fun _ _ => hd⟩
  · rw [if_neg hx] at hd; exact ⟨Or.inr (hI x d hd), fun e => absurd e hx⟩

theorem inverseRev_insertAsset {g : Graph} (hR : g.InverseRev) (a : Dep) (deps : List Dep) :
    (g.insertAsset a deps).InverseRev := by
  rw [inverseRev_iff] at hR ⊢
  intro x y hy
  obtain ⟨h1, h2⟩ := (mem_rdeps_insertAsset g a deps x y).mp hy
  rw [deps_insertAsset]
  by_cases hya : y = a
  · -- a stale reverse edge to `a` would have been removed
    rw [if_pos hya]
    rcases h1 with ⟨_, h⟩ | h
    · exact h
    · exact h2 hya (hya ▸ hR x y h)
  · rw [if_neg hya]
    rcases h1 with ⟨e, _⟩ | h
    · exact absurd e hya
    · exact hR x y h

theorem inverse_addDeps {g : Graph} (hI : g.Inverse) (a : Dep) (deps : List Dep) : (g.addDeps a deps).Inverse := by
  rw [inverse_iff] at hI ⊢
  intro x d hd
  rw [mem_rdeps_addDeps]
  rcases (mem_deps_addDeps g a deps x d).mp hd with h | ⟨hx, _, h⟩
  · exact Or.inr (hI x d h)
  · exact Or.inl ⟨hx, h⟩

theorem inverseRev_addDeps {g : Graph} (hR : g.InverseRev) (a : Dep) (deps : List Dep) (ha : g.get a ≠ none) :
    (g.addDeps a deps).InverseRev := by
  rw [inverseRev_iff] at hR ⊢
  intro x y hy
  rw [mem_deps_addDeps]
  rcases (mem_rdeps_addDeps g a deps x y).mp hy with ⟨hya, h⟩ | h
  · exact Or.inr ⟨hya, Or.inl (Option.isSome_iff_ne_none.mpr ha), h⟩
  · exact Or.inl (hR x y h)

theorem inverse_nil : Graph.Inverse [] := by
  intro a d ⟨n, hn, _⟩; simp at hn

theorem inverseRev_nil : Graph.InverseRev [] := by
  intro a d ⟨n, hn, _⟩; simp at hn

/-! ### the forward view (`typed`, `deps`) away from the asset -/

theorem onlyAt_insertAsset (g : Graph) (a : Dep) (deps : List Dep) : g.OnlyAt (g.insertAsset a deps) a :=
  fun x hx => ⟨by rw [typed_insertAsset, decide_eq_false hx, Bool.false_or], by rw [deps_insertAsset, if_neg hx]⟩

theorem onlyAt_addDeps (g : Graph) (a : Dep) (deps : List Dep) : g.OnlyAt (g.addDeps a deps) a :=
  fun x hx => ⟨typed_addDeps g a deps x, by rw [node_addDeps]; exact if_neg fun h => hx h.1⟩

/-! ### examples (non-vacuity) -/

def k0 : Key := ⟨0, ""⟩
def k1 : Key := ⟨1, ""⟩
def k2 : Key := ⟨2, ""⟩
def fA : Dep := .file "a" "txt"
def fB : Dep := .file "b" "txt"

/-- `k1` reads file `b`; `k0` reads file `a` and asset `k1`; `k2` reads the directory `d` and `k0` -/
def gEx : Graph :=
  ((Graph.insertAsset [] (.asset k1) [fB]).insertAsset (.asset k0) [fA, .asset k1]).insertAsset (.asset k2)
    [.dir "d", .asset k0]

/-- `gEx` is built by `insertAsset` from `[]`: its index is exact -/
theorem gEx_inverse : gEx.Inverse ∧ gEx.InverseRev :=
  ⟨inverse_insertAsset (inverse_insertAsset (inverse_insertAsset inverse_nil _ _) _ _) _ _,
   inverseRev_insertAsset (inverseRev_insertAsset (inverseRev_insertAsset inverseRev_nil _ _) _ _) _ _⟩

example : (gEx.get fB).map (·.rdeps) = some [.asset k1] ∧ (gEx.get fB).map (·.typed) = some false := by decide +kernel
example : (gEx.get (.asset k0)).map (·.deps) = some [fA, .asset k1] ∧
    (gEx.get (.asset k0)).map (·.rdeps) = some [.asset k2] := by decide +kernel
example : (fB, { rdeps := [.asset k1] }) ∈ gEx := get_some_mem rfl
example : (gEx.set fA {}).get fA = some {} ∧ (gEx.set fA {}).get fB = gEx.get fB :=
  ⟨by rw [get_set, if_pos rfl], by rw [get_set, if_neg (by decide)]⟩

/-- the graph after the first insertion -/
def gA : Graph := Graph.insertAsset [] (.asset k1) [fB]

/-- `k0` is new when it is inserted into `gA` -/
theorem gA_k0_new : ([fA, .asset k1].foldl (addR (.asset k0)) gA).get (.asset k0) = none := by decide +kernel

example : Graph.get ((fA, {}) :: gEx) fB = gEx.get fB := by rw [get_cons, if_neg (by decide)]
example : gEx.any (·.1 = fA) = true := by rw [any_eq_isSome]; decide +kernel
example : Graph.get (gEx ++ [(.dir "new", { typed := true })]) (.dir "new") = some { typed := true } :=
  (Assoc.find_append (by decide +kernel) _ _).trans (if_pos rfl)
example : (Graph.get (gA.map (fun x => if x.1 = fB then (fB, {}) else x)) fB).map (·.rdeps) = some [] := by
  rw [Graph.get, Assoc.find_update]; rfl
example : Dep.asset k0 ∈ addIfAbsent (.asset k0) [fA] := (mem_addIfAbsent _ _ _).mpr (Or.inl rfl)
example : bump fA (bump fA { rdeps := [fB] }) = bump fA { rdeps := [fB] } ∧ (bump fA { rdeps := [fB] }).rdeps = [fB, fA] :=
  ⟨bump_bump _ _, rfl⟩
example : strip fA (strip fA { rdeps := [fA, fB] }) = strip fA { rdeps := [fA, fB] } ∧
    (strip fA { rdeps := [fA, fB] }).rdeps = [fB] := ⟨strip_strip _ _, by decide⟩
example : gA.insertAsset (.asset k0) [fA, .asset k1] =
    ([fA, .asset k1].foldl (addR (.asset k0)) gA).set (.asset k0) { typed := true, deps := [fA, .asset k1], rdeps := [] } := by
  rw [insertAsset_eq, gA_k0_new]
example : (([fA, .asset k1].foldl (addR (.asset k0)) gA).get fA).map (·.rdeps) = some [.asset k0] := by
  rw [get_addR_fold]; decide +kernel
example : (([fB].foldl (rmR (.asset k1)) gA).get fB).map (·.rdeps) = some [] := by
  rw [get_rmR_fold]; decide +kernel
example : ((rmR (.asset k1) gA fB).get fB).map (·.rdeps) = some [] := by rw [get_rmR]; decide +kernel
example : ∃ n, gA.get (.asset k1) = some n ∧ fB ∈ n.deps :=
  (mem_node_deps gA _ _).mp (by decide +kernel)
example : ∃ n1, ([fA, .asset k1].foldl (addR (.asset k0)) gA).get (.asset k1) = some n1 ∧ n1.deps = [fB] :=
  ⟨_, rfl, rfl⟩
example : ∃ m1, ([fA, .asset k1].foldl (addR (.asset k0)) gA).get fA = some m1 ∧ Dep.asset k0 ∈ m1.rdeps :=
  (mem_node_rdeps _ _ _).mp (by rw [node_addR_fold]; decide +kernel)
example : ∃ m1, ([fA, .asset k1].foldl (addR (.asset k0)) gA).get fB = some m1 ∧ Dep.asset k1 ∈ m1.rdeps :=
  (mem_node_rdeps _ _ _).mp (by rw [node_addR_fold]; decide +kernel)
example : ∃ m, gA.get fB = some m ∧ Dep.asset k1 ∈ m.rdeps :=
  (mem_node_rdeps gA _ _).mp (by decide +kernel)
example : Dep.asset k0 ∉ [fA, .asset k1] ∧ gA.get (.asset k0) = none :=
  ⟨by decide, by decide +kernel⟩
example : (gA.insertAsset (.asset k0) [fA, .asset k1]).get fB = ([fA, .asset k1].foldl (addR (.asset k0)) gA).get fB := by
  rw [insertAsset_eq, gA_k0_new]
  exact (get_set _ _ _ _).trans (if_neg (by decide))
-- `k0` is re-inserted with `[fA]` only: `k1` loses the backward edge
example : ((gEx.insertAsset (.asset k0) [fA]).get (.asset k1)).map (·.rdeps) = some [] := by
  decide +kernel
example : (insT (.asset k0) [fA] { deps := [fA, .asset k1] } (.asset k1) { rdeps := [.asset k0, fB] }).rdeps = [fB] := by
  decide
example : (insT (.asset k0) [fA] { deps := [fA, .asset k1] } (.asset k1) { deps := [fB] }).deps = [fB] :=
  (insT_deps _ _).trans (if_neg (by decide))
example : (insT (.asset k0) [fA] { deps := [fA, .asset k1] } (.asset k0) { deps := [fB] }).deps = [fA] :=
  (insT_deps _ _).trans (if_pos rfl)
example : fB ∈ (insT (.asset k0) [fA] { deps := [fA, .asset k1] } (.asset k1) { rdeps := [.asset k0, fB] }).rdeps :=
  (mem_insT_rdeps _).mpr ⟨by decide, fun h => absurd h (by decide)⟩
example : fA ∈ [fA, fB].foldl (fun l d => addIfAbsent d l) [fB] := (mem_foldl_addIfAbsent _ _ _).mpr (Or.inr (by simp))
example : (Graph.addDeps [] (.asset k0) [fA]).get fA = ([fA].foldl (addR (.asset k0)) []).get fA := by
  rw [addDeps_eq, show ([fA].foldl (addR (.asset k0)) []).get (.asset k0) = none by decide +kernel]
example : ((gEx.addDeps (.asset k1) [fA]).get (.asset k1)).map (·.deps) = some [fB, fA] := by
  decide +kernel

example : gEx.Inverse ∧ gEx.InverseRev := gEx_inverse
-- re-inserting `k0` with fewer dependencies removes the backward edge from `k1`
example : ((gEx.insertAsset (.asset k0) [fA]).get (.asset k1)).map (·.rdeps) = some [] := by decide +kernel
example : (gEx.insertAsset (.asset k0) [fA]).Inverse ∧ (gEx.insertAsset (.asset k0) [fA]).InverseRev :=
  ⟨inverse_insertAsset gEx_inverse.1 _ _, inverseRev_insertAsset gEx_inverse.2 _ _⟩
-- `addDeps` keeps the old dependencies and adds the new ones
example : ((gEx.addDeps (.asset k1) [fA]).get (.asset k1)).map (·.deps) = some [fB, fA] ∧
    ((gEx.addDeps (.asset k1) [fA]).get fA).map (·.rdeps) = some [.asset k0, .asset k1] := by decide +kernel
example : (gEx.addDeps (.asset k1) [fA]).Inverse ∧ (gEx.addDeps (.asset k1) [fA]).InverseRev :=
  ⟨inverse_addDeps gEx_inverse.1 _ _, inverseRev_addDeps gEx_inverse.2 _ _ (by decide +kernel)⟩
/-- **Counterexample**: `addDeps` for an asset WITHOUT a node creates backward edges without forward
edges, so `InverseRev` is preserved by `addDeps` only when the asset has a node (`reloadAll` calls it
only then). -/
theorem inverseRev_addDeps_needs_node : ¬ (Graph.addDeps [] (.asset k0) [fA]).InverseRev := by
  intro h
  have h1 : (Graph.addDeps [] (.asset k0) [fA]).get fA = some { rdeps := [.asset k0] } := rfl
  have h2 : (Graph.addDeps [] (.asset k0) [fA]).get (.asset k0) = none := by decide +kernel
  have ⟨n, hn, _⟩ := h fA (.asset k0) ⟨_, h1, by simp⟩
  rw [h2] at hn; cases hn

end AmVerif.Lemmas.TopoGraph
