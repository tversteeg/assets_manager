import AmVerif.Model.Types
import AmVerif.Lemmas.Assoc
/-!
# Lemmas about `eval`

In the order of the file:
* look-ups — `St.Le` (`t` extends `s`); `St.record_cases`; keep-first insertion key by key (`St.insertKeepFirst_lookup`);
* frames — `SameShape`, `withFrame_restores`; `loadAndRecord_hot`: what `load_and_record` does for a hot type as a function
  of what the loader body returns (`St.enter`, `St.leaveErr`);
* `eval_tryCatch` … `eval_load_miss₀` — the clauses of `eval` with a nested evaluation as compositions of `withFrame`,
  `onFreshThread`, `loadAndRecord`, `cont`, `tryK`, `okOr`; `eval_load_miss` — a `.load` that misses (hot type, cache with
  reloader) in terms of the loader body: `St.leaveOk`, `St.leaveErr`;
* `EvalRel`, `EvalRel.eval` — a reflexive and transitive relation that holds across each primitive update of `eval` holds
  across every evaluation. Every before / after fact about `eval` is an instance: here `St.Le` (`eval_mono`: an evaluation
  never removes or modifies a cache entry) and `SameShape` (`eval_shape`: the recording stack keeps its depth and everything
  below its top frame, whatever the outcome); `Added P`, `LedgerOK`, `OutExt`, `TopMono` in the modules that define them;
* `eval_load_ret'`, `eval_loadOwned_ret'_fst` — the `load` / `load_owned` of the API operations.
-/
namespace AmVerif.Model
open AmVerif.Gen

/-- `t` extends `s`: every entry of `s` is still there, unchanged. -/
def St.Le (s t : St) : Prop := ∀ k c, s.lookup k = some c → t.lookup k = some c

theorem St.Le.refl (s : St) : s.Le s := fun _ _ h => h
theorem St.Le.trans {a b c : St} (h1 : a.Le b) (h2 : b.Le c) : a.Le c := fun k x h => h2 k x (h1 k x h)

theorem St.Le.of_map_eq {s t : St} (h : t.map = s.map) : s.Le t := by
  intro k c hk; unfold St.lookup at *; rw [h]; exact hk

theorem St.record_cases (s : St) (on : Bool) (d : Dep) :
    s.record on d = s ∨ ∃ ds rs, s.recs = some ds :: rs ∧ s.record on d = { s with recs := some (depInsert d ds) :: rs } := by
  unfold St.record
  split
  · split
    · next ds rs h => exact Or.inr ⟨ds, rs, h, rfl⟩
    · exact Or.inl rfl
  · exact Or.inl rfl

@[simp] theorem St.record_map (s : St) (on : Bool) (d : Dep) : (s.record on d).map = s.map := by
  rcases St.record_cases s on d with e | ⟨_, _, _, e⟩ <;> rw [e]

theorem St.record_out (s : St) (on : Bool) (d : Dep) : (s.record on d).out = s.out := by
  rcases St.record_cases s on d with e | ⟨_, _, _, e⟩ <;> rw [e]

@[simp] theorem St.record_lookup (s : St) (on : Bool) (d : Dep) (k : Key) : (s.record on d).lookup k = s.lookup k := by
  unfold St.lookup; simp

@[simp] theorem St.send_map (s : St) (m : Msg) : (s.send m).map = s.map := rfl

@[simp] theorem St.recordAll_map (s : St) (on : Bool) (ds : List Dep) : (s.recordAll on ds).map = s.map := by
  unfold St.recordAll
  induction ds generalizing s with
  | nil => rfl
  | cons d ds ih => simp only [List.foldl]; rw [ih]; simp

theorem St.recordAll_out (s : St) (on : Bool) (ds : List Dep) : (s.recordAll on ds).out = s.out := by
  unfold St.recordAll
  induction ds generalizing s with
  | nil => rfl
  | cons d ds ih => simp only [List.foldl]; rw [ih]; exact St.record_out s on d

theorem lookup_append_of_none (m : List (Key × Cell)) (k k' : Key) (c : Cell)
    (h : (m.find? (·.1 = k)) = none) (hk : k' ≠ k) :
    ((m ++ [(k, c)]).find? (·.1 = k')) = m.find? (·.1 = k') := by
  rw [List.find?_append]
  cases hm : m.find? (·.1 = k') with
  | some x => simp
  | none => simp [Ne.symm hk]

/-- the cell that survives `insertKeepFirst k c`: the one that was there, if any -/
theorem St.insertKeepFirst_snd (s : St) (k : Key) (c : Cell) : (s.insertKeepFirst k c).2 = (s.lookup k).getD c := by
  unfold St.insertKeepFirst
  cases s.lookup k <;> rfl

/-- … and the look-ups afterwards: the key holds the survivor, every other key is as before -/
theorem St.insertKeepFirst_lookup (s : St) (k k' : Key) (c : Cell) :
    (s.insertKeepFirst k c).1.lookup k' = if k' = k then some ((s.lookup k).getD c) else s.lookup k' := by
  unfold St.insertKeepFirst
  cases hl : s.lookup k with
  | some x =>
    show s.lookup k' = _
    split
    · next e => rw [e, hl]; rfl
    · rfl
  | none => exact Assoc.find_append hl k' c

theorem St.insertKeepFirst_le (s : St) (k : Key) (c : Cell) : s.Le (s.insertKeepFirst k c).1 := by
  intro k' c' h
  rw [St.insertKeepFirst_lookup]
  split
  · next e => rw [← e, h]; rfl
  · exact h

@[simp] theorem St.insertKeepFirst_recs (s : St) (k c) : (s.insertKeepFirst k c).1.recs = s.recs := by
  unfold St.insertKeepFirst; split <;> rfl

theorem St.insertKeepFirst_out (s : St) (k : Key) (c : Cell) : (s.insertKeepFirst k c).1.out = s.out := by
  unfold St.insertKeepFirst; split <;> rfl

/-! ### Frames -/

/-- The shape invariant of one evaluation: the stack below the top frame is untouched and the
depth is the same (the top frame may have collected records). -/
def SameShape (s t : St) : Prop := t.recs.tail = s.recs.tail ∧ t.recs.length = s.recs.length

theorem SameShape.refl (s : St) : SameShape s s := ⟨rfl, rfl⟩
theorem SameShape.trans {a b c : St} (h1 : SameShape a b) (h2 : SameShape b c) : SameShape a c :=
  ⟨h2.1.trans h1.1, h2.2.trans h1.2⟩

theorem SameShape.record (s : St) (on : Bool) (d : Dep) : SameShape s (s.record on d) := by
  rcases St.record_cases s on d with e | ⟨ds, rs, h, e⟩ <;> rw [e]
  · exact .refl s
  · exact ⟨by rw [h]; rfl, by rw [h]; rfl⟩

/-- When a frame is pushed the thread's recording is restored *exactly* afterwards. -/
theorem withFrame_restores (frame) (body : St → St × Outcome) (s : St) :
    (withFrame true frame body s).1.recs = s.recs := rfl

/-! ### `load_and_record` of a hot type: a fresh frame, popped on every exit -/

/-- what the top frame has recorded (the third component of `withFrame`) -/
def St.top (s : St) : List Dep :=
  match s.recs with
  | some ds :: _ => ds
  | _ => []

theorem St.top_of_recs {s : St} {ds : List Dep} {rs} (h : s.recs = some ds :: rs) : s.top = ds := by
  unfold St.top; rw [h]

/-- the state the loader body of a nested load starts from: a fresh record on top -/
def St.enter (s : St) : St := { s with recs := some [] :: s.recs }

/-- the loader body failed in `sb`: the frame is popped and what it recorded is handed to the parent's frame -/
def St.leaveErr (recs : List (Option (List Dep))) (sb : St) : St :=
  St.recordAll { sb with recs := recs } true sb.top

@[simp] theorem St.enter_lookup (s : St) (k : Key) : s.enter.lookup k = s.lookup k := rfl
@[simp] theorem St.enter_out (s : St) : s.enter.out = s.out := rfl
@[simp] theorem St.enter_map (s : St) : s.enter.map = s.map := rfl

theorem leaveErr_map (recs) (sb : St) : (St.leaveErr recs sb).map = sb.map := by
  unfold St.leaveErr; rw [St.recordAll_map]

theorem leaveErr_out (recs) (sb : St) : (St.leaveErr recs sb).out = sb.out := by
  unfold St.leaveErr; rw [St.recordAll_out]

theorem loadAndRecord_hot (env : Env) (body : St → St × Outcome) (key : Key) (s : St)
    (hb : recordsAsset (env.types key.ty).hot env.hasReloader = true) :
    loadAndRecord env body key s =
      match body s.enter with
      | (sb, .ok v) => (St.send { sb with recs := s.recs } (.addAsset key sb.top), .ok v)
      | (sb, .err e) => (St.recordAll { sb with recs := s.recs } failedLoadRecordsToParent sb.top, .err (.wrapped key.id e))
      | (sb, o) => ({ sb with recs := s.recs }, o) := by
  unfold loadAndRecord withFrame St.enter
  simp only [hb, if_true, Bool.and_true]
  generalize body { s with recs := some [] :: s.recs } = r
  obtain ⟨sb, o⟩ := r
  cases o <;> rfl

/-! ### The clauses of `eval` with a nested evaluation -/

/-- the cell `get_or_insert` creates (`add_any`) -/
def insertedCell (env : Env) (key : Key) (v : Val) (addr : Nat) : Cell :=
  { val := v, dyn := insertedEntryDynamic (env.types key.ty).hot env.hasReloader,
    rid := ReloadId_NEVER, flag := false, addr := addr }

/-- `add_asset` / `add_any`: keep-first insertion of a cell made at the next address, with its ledger
entry (`lost`: the key was there, the new value is dropped) -/
def St.add (s : St) (key : Key) (c : Cell) (lost : Bool) : St :=
  St.own { (s.insertKeepFirst key c).1 with next := s.next + 1 } key.ty s.next lost

theorem St.add_lookup (s : St) (key k : Key) (c : Cell) (lost : Bool) :
    (s.add key c lost).lookup k = if k = key then some ((s.lookup key).getD c) else s.lookup k :=
  St.insertKeepFirst_lookup s key k c

theorem St.add_recs (s : St) (key : Key) (c : Cell) (lost : Bool) : (s.add key c lost).recs = s.recs :=
  St.insertKeepFirst_recs s key c

theorem St.add_out (s : St) (key : Key) (c : Cell) (lost : Bool) : (s.add key c lost).out = s.out :=
  St.insertKeepFirst_out s key c

theorem St.add_le (s : St) (key : Key) (c : Cell) (lost : Bool) : s.Le (s.add key c lost) :=
  (St.insertKeepFirst_le s key c).trans (St.Le.of_map_eq rfl)

/-- `catch_unwind`: go on with what the body did, unless it ran out of fuel -/
def tryK (K : Option (Except LErr Val) → St → St × Outcome) (r : St × Outcome) : St × Outcome :=
  match r.2 with
  | .ok v => K (some (.ok v)) r.1
  | .err e => K (some (.error e)) r.1
  | .panicked => K none r.1
  | .diverged => (r.1, .diverged)

/-- after `load_and_record`: a value goes to `onOk`, anything else to the continuation as `cont` does -/
def okOr (onOk : Val → St → St × Outcome) (K : Except LErr Val → St → St × Outcome) (r : St × Outcome) : St × Outcome :=
  match r.2 with
  | .ok v => onOk v r.1
  | o => cont o r.1 K id

/-! As compositions of `withFrame`, `onFreshThread`, `loadAndRecord`, `cont`, `tryK`, `okOr` (the other
clauses are `eval` of the continuation from an updated state, by `rfl`). -/
section equations
variable (env : Env) (f : Nat) (s : St)

theorem eval_tryCatch (body k) :
    eval env (f + 1) s (.tryCatch body k) = tryK (fun r s => eval env f s (k r)) (eval env f s body) := rfl

theorem eval_noRecord (body k) :
    eval env (f + 1) s (.noRecord body k) =
      cont (withFrame true none (fun s => eval env f s body) s).2.1 (withFrame true none (fun s => eval env f s body) s).1
        (fun r s => eval env f s (k r)) id := rfl

theorem eval_onThread (body k) :
    eval env (f + 1) s (.onThread body k) =
      cont (onFreshThread (fun s => eval env f s body) s).2 (onFreshThread (fun s => eval env f s body) s).1
        (fun r s => eval env f s (k r)) id := rfl

theorem eval_loadOwned (key k) :
    eval env (f + 1) s (.loadOwned key k) =
      okOr (fun v s1 => eval env f (s1.handOut key.ty) (k (.ok v))) (fun r s => eval env f s (k r))
        (loadAndRecord env (fun s => eval env f s ((env.types key.ty).prog key.id)) key
          (s.record (recordsAsset (env.types key.ty).hot env.hasReloader) (.asset key))) := rfl

theorem eval_load_hit (key : Key) (k : Except LErr Val → Prog) (c : Cell) (hl : s.lookup key = some c) :
    eval env (f + 1) s (.load key k) =
      eval env f (s.record (recordsAsset (env.types key.ty).hot env.hasReloader) (.asset key)) (k (.ok c.val)) := by
  simp only [eval, St.record_lookup, hl]

/-- a miss, for any type (`eval_load_miss`: for a hot type, in terms of the loader body) -/
theorem eval_load_miss₀ (key k) (hl : s.lookup key = none) :
    eval env (f + 1) s (.load key k) =
      okOr (fun v s1 => eval env f (s1.add key (newCell env key.ty v s1.next) (s1.lookup key).isSome)
          (k (.ok (s1.insertKeepFirst key (newCell env key.ty v s1.next)).2.val)))
        (fun r s => eval env f s (k r))
        (loadAndRecord env (fun s => eval env f s ((env.types key.ty).prog key.id)) key
          (s.record (recordsAsset (env.types key.ty).hot env.hasReloader) (.asset key))) := by
  simp only [eval, St.record_lookup, hl]
  rfl

end equations

/-! ### A miss of a hot type, in terms of the loader body: enter a frame, run the loader, leave -/

/-- the loader body of `key` returned `v` in `sb`: the frame is popped (the stack is `recs` again),
`AddAsset key (what the frame recorded)` is sent, the entry is inserted (keep-first) -/
def St.leaveOk (env : Env) (key : Key) (v : Val) (recs : List (Option (List Dep))) (sb : St) : St :=
  St.own { ((St.send { sb with recs := recs } (.addAsset key sb.top)).insertKeepFirst key
              (newCell env key.ty v sb.next)).1 with next := sb.next + 1 }
    key.ty sb.next (sb.lookup key).isSome

/-- the entry that is under `key` after that insertion: the new one, or (keep-first) the one a
recursive load of `key` put there while the loader ran -/
def St.survivor (env : Env) (key : Key) (v : Val) (sb : St) : Cell :=
  (sb.lookup key).getD (newCell env key.ty v sb.next)

/-- The failure case keeps the regenerated `failedLoadRecordsToParent` as it is, so that nothing here depends on its value;
for the current source (`true`) that state is `St.leaveErr`, by evaluation — which is how `Lemmas/Settle.lean` reads it. -/
theorem eval_load_miss (env : Env) (f : Nat) (s : St) (key : Key) (k : Except LErr Val → Prog)
    (hb : recordsAsset (env.types key.ty).hot env.hasReloader = true) (hl : s.lookup key = none) :
    eval env (f + 1) s (.load key k) =
      match eval env f (s.record true (.asset key)).enter ((env.types key.ty).prog key.id) with
      | (sb, .ok v) =>
        eval env f (St.leaveOk env key v (s.record true (.asset key)).recs sb) (k (.ok (St.survivor env key v sb).val))
      | (sb, .err e) =>
        eval env f (St.recordAll { sb with recs := (s.record true (.asset key)).recs } failedLoadRecordsToParent sb.top)
          (k (.error (.wrapped key.id e)))
      | (sb, o) => ({ sb with recs := (s.record true (.asset key)).recs }, o) := by
  rw [eval_load_miss₀ env f s key k hl, hb, loadAndRecord_hot env _ key _ hb]
  generalize eval env f (s.record true (.asset key)).enter ((env.types key.ty).prog key.id) = r
  obtain ⟨sb, o⟩ := r
  cases o with
  | ok v =>
    -- the handle's value is the survivor's
    exact congrArg (fun c : Cell => eval env f _ (k (.ok c.val))) (St.insertKeepFirst_snd _ key _)
  | err e => rfl
  | panicked => rfl
  | diverged => rfl

theorem eval_load_miss_ok (env : Env) (f : Nat) (s : St) (key : Key) (k : Except LErr Val → Prog)
    (hb : recordsAsset (env.types key.ty).hot env.hasReloader = true) (hl : s.lookup key = none)
    {sb : St} {v : Val}
    (hbody : eval env f (s.record true (.asset key)).enter ((env.types key.ty).prog key.id) = (sb, .ok v)) :
    eval env (f + 1) s (.load key k) =
      eval env f (St.leaveOk env key v (s.record true (.asset key)).recs sb) (k (.ok (St.survivor env key v sb).val)) := by
  rw [eval_load_miss env f s key k hb hl, hbody]

/-- the insertion of `St.add`, after the registration is sent -/
theorem leaveOk_eq_add (env : Env) (key : Key) (v : Val) (recs) (sb : St) :
    St.leaveOk env key v recs sb =
      (St.send { sb with recs := recs } (.addAsset key sb.top)).add key (newCell env key.ty v sb.next) (sb.lookup key).isSome :=
  rfl

/-- what is cached under `key` after a successful nested load -/
theorem leaveOk_lookup_self (env : Env) (key : Key) (v : Val) (recs) (sb : St) :
    (St.leaveOk env key v recs sb).lookup key = some (St.survivor env key v sb) :=
  (St.add_lookup _ key key _ _).trans (if_pos rfl)

theorem leaveOk_lookup_other (env : Env) (key : Key) (v : Val) (recs) (sb : St) (k : Key) (hk : k ≠ key) :
    (St.leaveOk env key v recs sb).lookup k = sb.lookup k :=
  (St.add_lookup _ key k _ _).trans (if_neg hk)

theorem leaveOk_le (env : Env) (key : Key) (v : Val) (recs) (sb : St) : sb.Le (St.leaveOk env key v recs sb) :=
  (St.Le.of_map_eq (s := sb) (t := St.send { sb with recs := recs } (.addAsset key sb.top)) rfl).trans (St.add_le _ key _ _)

theorem leaveOk_recs (env : Env) (key : Key) (v : Val) (recs) (sb : St) : (St.leaveOk env key v recs sb).recs = recs :=
  St.add_recs _ key _ _

theorem leaveOk_out (env : Env) (key : Key) (v : Val) (recs) (sb : St) :
    (St.leaveOk env key v recs sb).out = sb.out ++ [.addAsset key sb.top] :=
  St.add_out _ key _ _

/-! ### What every evaluation preserves

`eval` changes the state by nine kinds of primitive update only (`record`, `ios + 1`, `loads + 1`, `send`, `handOut`, the
keep-first insertion after a load, that of `get_or_insert`, push and pop of a frame); a reflexive and transitive relation
that holds across each of them holds across every evaluation (`EvalRel.eval`). -/

/-- `Q` passes from a program to every program its evaluation under `env` goes on with: continuations,
bodies, and the loaders of the type table. -/
structure Prog.Closed (env : Env) (Q : Prog → Prop) : Prop where
  read : ∀ {id ext k}, Q (.read id ext k) → ∀ r, Q (k r)
  readDir : ∀ {id k}, Q (.readDir id k) → ∀ r, Q (k r)
  getCached : ∀ {key k}, Q (.getCached key k) → ∀ r, Q (k r)
  getOrInsert : ∀ {key v k}, Q (.getOrInsert key v k) → ∀ r, Q (k r)
  tick : ∀ {k}, Q (.tick k) → ∀ r, Q (k r)
  tryCatch : ∀ {body k}, Q (.tryCatch body k) → Q body ∧ ∀ r, Q (k r)
  noRecord : ∀ {body k}, Q (.noRecord body k) → Q body ∧ ∀ r, Q (k r)
  onThread : ∀ {body k}, Q (.onThread body k) → Q body ∧ ∀ r, Q (k r)
  loadOwned : ∀ {key k}, Q (.loadOwned key k) → Q ((env.types key.ty).prog key.id) ∧ ∀ r, Q (k r)
  load : ∀ {key k}, Q (.load key k) → Q ((env.types key.ty).prog key.id) ∧ ∀ r, Q (k r)

theorem Prog.Closed.all (env : Env) : Prog.Closed env (fun _ => True) :=
  ⟨fun _ _ => trivial, fun _ _ => trivial, fun _ _ => trivial, fun _ _ => trivial, fun _ _ => trivial,
   fun _ => ⟨trivial, fun _ => trivial⟩, fun _ => ⟨trivial, fun _ => trivial⟩, fun _ => ⟨trivial, fun _ => trivial⟩,
   fun _ => ⟨trivial, fun _ => trivial⟩, fun _ => ⟨trivial, fun _ => trivial⟩⟩

/-- `R` holds from a state to the state after each primitive update of `eval` (the two insertions: when
the node that asks for them satisfies `Q`). `frame`: what holds across a body run on another recording
stack holds once the caller's stack is put back. -/
structure EvalRel (env : Env) (Q : Prog → Prop) (R : St → St → Prop) : Prop where
  refl : ∀ s, R s s
  trans : ∀ {a b c}, R a b → R b c → R a c
  record : ∀ (s : St) on d, R s (s.record on d)
  ios : ∀ s : St, R s { s with ios := s.ios + 1 }
  loads : ∀ s : St, R s { s with loads := s.loads + 1 }
  send : ∀ (s : St) m, R s (s.send m)
  handOut : ∀ (s : St) ty, R s (s.handOut ty)
  addLoad : ∀ (s : St) key v k, Q (.load key k) → R s (s.add key (newCell env key.ty v s.next) (s.lookup key).isSome)
  addAny : ∀ (s : St) key v k, Q (.getOrInsert key v k) → s.lookup key = none →
    R s (s.add key (insertedCell env key v s.next) false)
  frame : ∀ (s t : St) r, R { s with recs := r } t → R s { t with recs := s.recs }

namespace EvalRel
variable {env : Env} {Q : Prog → Prop} {R : St → St → Prop} (h : EvalRel env Q R)
include h

theorem recordAll (s : St) (on : Bool) (ds : List Dep) : R s (s.recordAll on ds) := by
  unfold St.recordAll
  induction ds generalizing s with
  | nil => exact h.refl s
  | cons d ds ih => exact h.trans (h.record s on d) (ih _)

theorem withFrame (push frame) (body : St → St × Outcome) (s : St) (hb : ∀ s, R s (body s).1) :
    R s (withFrame push frame body s).1 := by
  unfold Model.withFrame
  split
  · exact h.frame s _ _ (hb _)
  · exact hb s

theorem onFreshThread (body : St → St × Outcome) (s : St) (hb : ∀ s, R s (body s).1) :
    R s (onFreshThread body s).1 :=
  h.frame s _ _ (hb _)

theorem loadAndRecord (body : St → St × Outcome) (key : Key) (s : St) (hb : ∀ s, R s (body s).1) :
    R s (loadAndRecord env body key s).1 := by
  unfold Model.loadAndRecord
  have hf := h.withFrame (recordsAsset (env.types key.ty).hot env.hasReloader) (some []) body s hb
  generalize Model.withFrame _ (some []) body s = r at hf ⊢
  obtain ⟨s1, o, d⟩ := r
  cases o with
  | ok v =>
    simp only []
    split
    · exact h.trans hf (h.send _ _)
    · exact hf
  | err e => exact h.trans hf (h.recordAll _ _ _)
  | _ => exact hf

theorem cont (o : Outcome) (s : St) (k : Except LErr Val → St → St × Outcome) (wrap)
    (hk : ∀ r s, R s (k r s).1) : R s (cont o s k wrap).1 := by
  unfold Model.cont
  cases o with
  | ok v => exact hk _ _
  | err e => exact hk _ _
  | _ => exact h.refl s

theorem tryK (K : Option (Except LErr Val) → St → St × Outcome) (r : St × Outcome) (hK : ∀ o s, R s (K o s).1) :
    R r.1 (tryK K r).1 := by
  unfold Model.tryK
  split
  · exact hK _ _
  · exact hK _ _
  · exact hK _ _
  · exact h.refl _

theorem okOr (onOk : Val → St → St × Outcome) (K : Except LErr Val → St → St × Outcome) (r : St × Outcome)
    (hok : ∀ v s, R s (onOk v s).1) (hK : ∀ o s, R s (K o s).1) : R r.1 (okOr onOk K r).1 := by
  unfold Model.okOr
  split
  · exact hok _ _
  · exact h.cont _ _ _ _ hK

/-- **`R` holds across every evaluation of a program that satisfies `Q`**, whatever its outcome. -/
theorem eval (hQ : Prog.Closed env Q) : ∀ f s p, Q p → R s (eval env f s p).1 := by
  intro f
  induction f with
  | zero => intro s p _; exact h.refl s
  | succ f ih =>
    intro s p hp
    cases p with
    | ret v => exact h.refl s
    | fail e => exact h.refl s
    | panic => exact h.refl s
    | read id ext k => exact h.trans (h.record s _ _) (h.trans (h.ios _) (ih _ _ (hQ.read hp _)))
    | readDir id k => exact h.trans (h.record s _ _) (h.trans (h.ios _) (ih _ _ (hQ.readDir hp _)))
    | getCached key k => exact h.trans (h.record s _ _) (ih _ _ (hQ.getCached hp _))
    | tick k => exact h.trans (h.loads s) (ih _ _ (hQ.tick hp _))
    | getOrInsert key v k =>
      simp only [Model.eval]
      refine h.trans (h.record s (recordsAsset (env.types key.ty).hot env.hasReloader) (.asset key)) ?_
      generalize s.record _ _ = s'
      cases hl : s'.lookup key with
      | some c => exact h.trans (h.handOut s' key.ty) (ih _ _ (hQ.getOrInsert hp _))
      | none => exact h.trans (h.addAny s' key v k hp hl) (ih _ _ (hQ.getOrInsert hp _))
    | tryCatch body k =>
      rw [eval_tryCatch]
      exact h.trans (ih s body (hQ.tryCatch hp).1) (h.tryK _ _ fun o s => ih s (k o) ((hQ.tryCatch hp).2 o))
    | noRecord body k =>
      rw [eval_noRecord]
      exact h.trans (h.withFrame true none _ s fun s => ih s body (hQ.noRecord hp).1)
        (h.cont _ _ _ _ fun r s => ih s (k r) ((hQ.noRecord hp).2 r))
    | onThread body k =>
      rw [eval_onThread]
      exact h.trans (h.onFreshThread _ s fun s => ih s body (hQ.onThread hp).1)
        (h.cont _ _ _ _ fun r s => ih s (k r) ((hQ.onThread hp).2 r))
    | loadOwned key k =>
      rw [eval_loadOwned]
      exact h.trans (h.record s _ _) (h.trans (h.loadAndRecord _ key _ fun s => ih s _ (hQ.loadOwned hp).1)
        (h.okOr _ _ _ (fun v s => h.trans (h.handOut s key.ty) (ih _ _ ((hQ.loadOwned hp).2 _)))
          fun r s => ih s (k r) ((hQ.loadOwned hp).2 r)))
    | load key k =>
      cases hl : s.lookup key with
      | some c => rw [eval_load_hit env f s key k c hl]; exact h.trans (h.record s _ _) (ih _ _ ((hQ.load hp).2 _))
      | none =>
        rw [eval_load_miss₀ env f s key k hl]
        exact h.trans (h.record s _ _) (h.trans (h.loadAndRecord _ key _ fun s => ih s _ (hQ.load hp).1)
          (h.okOr _ _ _ (fun v s => h.trans (h.addLoad s key v k hp) (ih _ _ ((hQ.load hp).2 _)))
            fun r s => ih s (k r) ((hQ.load hp).2 r)))

omit h in
/-- **`R` holds across every evaluation.** -/
theorem eval_all (h : EvalRel env (fun _ => True) R) (f : Nat) (s : St) (p : Prog) : R s (Model.eval env f s p).1 :=
  h.eval (.all env) f s p trivial

end EvalRel

theorem St.Le.evalRel (env : Env) (Q) : EvalRel env Q St.Le where
  refl := St.Le.refl
  trans := St.Le.trans
  record s on d := St.Le.of_map_eq (St.record_map s on d)
  ios _ := St.Le.of_map_eq rfl
  loads _ := St.Le.of_map_eq rfl
  send _ _ := St.Le.of_map_eq rfl
  handOut _ _ := St.Le.of_map_eq rfl
  addLoad s key _ _ _ := s.add_le key _ _
  addAny s key _ _ _ _ := s.add_le key _ _
  frame _ _ _ hb := hb

theorem SameShape.of_recs_eq {s t : St} (e : t.recs = s.recs) : SameShape s t := ⟨by rw [e], by rw [e]⟩

theorem SameShape.evalRel (env : Env) (Q) : EvalRel env Q SameShape where
  refl := SameShape.refl
  trans := SameShape.trans
  record := SameShape.record
  ios _ := .of_recs_eq rfl
  loads _ := .of_recs_eq rfl
  send _ _ := .of_recs_eq rfl
  handOut _ _ := .of_recs_eq rfl
  addLoad s key _ _ _ := .of_recs_eq (s.add_recs key _ _)
  addAny s key _ _ _ _ := .of_recs_eq (s.add_recs key _ _)
  frame _ _ _ _ := .of_recs_eq rfl

/-- Existing entries are never removed or modified by an evaluation. -/
theorem eval_mono (env : Env) (f) (s : St) (p) : s.Le (eval env f s p).1 := (St.Le.evalRel env _).eval_all f s p

theorem evalTop_mono (env : Env) (fuel) (s : St) (p) : s.Le (evalTop env fuel s p).1 :=
  eval_mono env fuel { s with recs := [] } p

theorem evalTop_lookup (env : Env) (fuel : Nat) (s : St) (p : Prog) (k : Key) :
    (evalTop env fuel s p).1.lookup k = (eval env fuel { s with recs := [] } p).1.lookup k := rfl

theorem evalTop_out (env : Env) (fuel : Nat) (s : St) (p : Prog) :
    (evalTop env fuel s p).1.out = (eval env fuel { s with recs := [] } p).1.out := rfl

/-- The recording stack keeps its shape through every evaluation. -/
theorem eval_shape (env : Env) (f s p) : SameShape s (eval env f s p).1 := (SameShape.evalRel env _).eval_all f s p

/-! ### `load` / `load_owned` whose continuation just returns (the API operations) -/

/-- the continuation `ret'` leaves the state alone, whatever the fuel -/
theorem eval_ret'_fst (env : Env) (f : Nat) (s : St) (r : Except LErr Val) : (eval env f s (Prog.ret' r)).1 = s := by
  cases f <;> cases r <;> rfl

/-- with fuel left, the continuation `ret'` hands the outcome on as it is -/
theorem cont_ret' (env : Env) (f : Nat) (o : Outcome) (s : St) :
    cont o s (fun r s => eval env (f + 1) s (Prog.ret' r)) id = (s, o) := by
  cases o <;> rfl

/-- `load` of an absent key, continuation `ret'`: what `load_and_record` gives, and when that is a value
the value is stored first (keep-first) and the surviving entry's value returned. -/
theorem eval_load_ret' (env : Env) (f : Nat) (s : St) (key : Key) (hl : s.lookup key = none) :
    eval env (f + 2) s (.load key Prog.ret') =
      match loadAndRecord env (fun s => eval env (f + 1) s ((env.types key.ty).prog key.id)) key
          (s.record (recordsAsset (env.types key.ty).hot env.hasReloader) (.asset key)) with
      | (s1, .ok v) => (s1.add key (newCell env key.ty v s1.next) (s1.lookup key).isSome,
          .ok (s1.insertKeepFirst key (newCell env key.ty v s1.next)).2.val)
      | r => r := by
  rw [eval_load_miss₀ env (f + 1) s key _ hl]
  generalize loadAndRecord env _ key _ = r
  obtain ⟨s1, o⟩ := r
  cases o <;> rfl

/-- `load_owned`, continuation `ret'`: the state afterwards is the one `load_and_record` left (a value is
handed to the caller), whatever the fuel. -/
theorem eval_loadOwned_ret'_fst (env : Env) (f : Nat) (s : St) (key : Key) :
    (eval env (f + 1) s (.loadOwned key Prog.ret')).1 =
      match loadAndRecord env (fun s => eval env f s ((env.types key.ty).prog key.id)) key
          (s.record (recordsAsset (env.types key.ty).hot env.hasReloader) (.asset key)) with
      | (s1, .ok _) => s1.handOut key.ty
      | (s1, _) => s1 := by
  rw [eval_loadOwned]
  generalize loadAndRecord env _ key _ = r
  obtain ⟨s1, o⟩ := r
  cases o with
  | ok v => exact eval_ret'_fst env f _ _
  | err e => exact eval_ret'_fst env f _ _
  | _ => rfl

end AmVerif.Model
