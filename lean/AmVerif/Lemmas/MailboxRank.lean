import AmVerif.Lemmas.MailboxStep
/-!
# Facts about the mailbox that hold in *every* environment (helper lemmas for C08)

* `bound_run`: only the `n` calls of the system ever move;
* `own_run`: a call returns only after its own request was served (or the thread had died before it sent);
* `rank_step`: every effective non-spurious step strictly decreases `rank`;
* `alive_run`: the process is aborted only by an overflowing update pass.
-/
namespace AmVerif.Lemmas.MailboxRank
open AmVerif.Model.Reloader AmVerif.Lemmas.MailboxStep

variable {e : Env} {s s' : St} {t : Tid} {n : Nat}

/-! ## counting -/

theorem cnt_le (p : CPc → Bool) (c : Nat → CPc) (n : Nat) : cnt p c n ≤ n := by
  induction n with
  | zero => exact Nat.le_refl 0
  | succ n ih => unfold cnt; split <;> omega

theorem cnt_congr (p : CPc → Bool) {c c' : Nat → CPc} (n : Nat) (h : ∀ k, k < n → p (c k) = p (c' k)) :
    cnt p c n = cnt p c' n := by
  induction n with
  | zero => rfl
  | succ n ih => unfold cnt; rw [ih (fun k hk => h k (Nat.lt_succ_of_lt hk)), h n (Nat.lt_succ_self n)]

theorem cnt_const (p : CPc → Bool) (v : CPc) (n : Nat) : cnt p (fun _ => v) n = if p v then n else 0 := by
  induction n with
  | zero => exact (ite_self 0).symm
  | succ n ih => unfold cnt; rw [ih]; split <;> rfl

theorem cnt_upd_same (p : CPc → Bool) {c : Nat → CPc} {i : Nat} {v : CPc} (n : Nat) (h : p v = p (c i)) :
    cnt p (upd c i v) n = cnt p c n := by
  refine cnt_congr p n fun k _ => ?_
  by_cases hk : k = i
  · rw [hk, upd_self, h]
  · rw [upd_of_ne c v hk]

theorem cnt_upd_drop (p : CPc → Bool) {c : Nat → CPc} {i n : Nat} {v : CPc} (hi : i < n) (h1 : p (c i) = true)
    (h2 : p v = false) : cnt p (upd c i v) n + 1 = cnt p c n := by
  induction n with
  | zero => omega
  | succ n ih =>
    unfold cnt
    by_cases hin : i = n
    · subst hin
      rw [cnt_congr p i fun k hk => by rw [upd_of_ne c v (Nat.ne_of_lt hk)], upd_self, h1, h2]; rfl
    · have := ih (by omega)
      rw [upd_of_ne c v (Ne.symm hin)]
      omega

theorem cnt_wakeAll (p : CPc → Bool) (c : Nat → CPc) (n : Nat) (h : p .runnable = p .sleeping) :
    cnt p (wakeAll c) n = cnt p c n := by
  refine cnt_congr p n fun k _ => ?_
  by_cases hk : c k = .sleeping
  · rw [wakeAll_sleeping hk, hk, h]
  · rw [wakeAll_of_ne hk]

/-! ## a returned call stays returned; only the `n` calls move -/

theorem done_stable (h : Step e s t s') {k : Nat} (hk : s.c k = .done) : s'.c k = .done := by
  cases h with
  | sendDead i hc | send i hc | spurious i hc => exact upd_keeps _ (by rw [hc]; decide) hk
  | takeSilent i _ hc | wait i hc => exact upd_keeps _ (waiting_ne hc (by decide) (by decide)) hk
  | takeWake i _ hc => exact (wakeAll_done _ _).2 (upd_keeps _ (waiting_ne hc (by decide) (by decide)) hk)
  | publish => exact (wakeAll_done _ _).2 hk
  | recv | served | dies | aborts | full | spuriousR => exact hk

/-- `init n` starts every call `k ≥ n` at `.done`, and `done_stable` keeps it there: a call that can still
move is one of the `n` the counts `cnt … n` of the measures see. -/
def Bound (n : Nat) (s : St) : Prop := ∀ k, s.c k ≠ .done → k < n

theorem bound_step (h : Step e s t s') (b : Bound n s) : Bound n s' :=
  fun k hk => b k (mt (done_stable h) hk)

theorem bound_init (n : Nat) : Bound n (init n) := fun _ hk =>
  Decidable.byContradiction fun hkn => hk (if_neg hkn)

theorem bound_run (s : St) (σ : List Tid) (b : Bound n s) : Bound n (run e s σ) :=
  run_inv (fun _ _ _ h => bound_step h) s σ b

/-! ## a call returns by its own answer -/

/-- `served` is extended only where the update pass of `t` returns (rule `served`); from there `t` goes to
the reloader's hand (`o2`), then to the slot (`o1`), and only its own caller takes it from the slot (`o3`). -/
structure Own (n : Nat) (s : St) : Prop where
  /-- a published token was served -/
  o1 : ∀ t, s.slot = some t → t ∈ s.served
  /-- so was the token the reloader is about to publish -/
  o2 : ∀ t, s.r = .pub t ∨ s.r = .sleep t → t ∈ s.served
  /-- a returned call was served, or it found the thread dead when it tried to send -/
  o3 : ∀ i, i < n → s.c i = .done → i ∈ s.served ∨ s.r = .dead

theorem own_init (n : Nat) : Own n (init n) :=
  ⟨nofun, fun _ h => h.elim nofun nofun, fun i hi hd => by
    have : (if i < n then CPc.idle else .done) = .done := hd
    rw [if_pos hi] at this; cases this⟩

theorem own_step (h : Step e s t s') (o : Own n s) : Own n s' := by
  obtain ⟨o1, o2, o3⟩ := o
  cases h with
  | sendDead => exact ⟨o1, o2, fun _ _ _ => .inr rfl⟩
  | send | wait | spurious => exact ⟨o1, o2, fun k hk hd => o3 k hk (done_of_upd (by decide) hd)⟩
  | takeWake i =>
    refine ⟨nofun, fun t ht => o2 t (wakeR_holding ht), fun k hk hd => ?_⟩
    rcases done_of_upd_done ((wakeAll_done _ _).1 hd) with rfl | hd
    · exact .inl (o1 k rfl)
    · exact (o3 k hk hd).imp_right (wakeR_dead _).2
  | takeSilent i =>
    refine ⟨nofun, o2, fun k hk hd => ?_⟩
    rcases done_of_upd_done hd with rfl | hd
    · exact .inl (o1 k rfl)
    · exact o3 k hk hd
  | recv | aborts => exact ⟨o1, nofun, fun k hk hd => (o3 k hk hd).imp_right nofun⟩
  | served u =>
    refine ⟨fun t ht => .tail _ (o1 t ht), fun t ht => ?_, fun k hk hd => .inl (.tail _ ((o3 k hk hd).resolve_right nofun))⟩
    cases ht.resolve_right nofun; exact .head _
  | dies => exact ⟨o1, nofun, fun _ _ _ => .inr rfl⟩
  | full u v =>
    refine ⟨o1, fun t ht => ?_, fun k hk hd => (o3 k hk hd).imp_right nofun⟩
    cases ht.resolve_left nofun; exact o2 u (.inl rfl)
  | publish u =>
    refine ⟨fun t ht => ?_, nofun, fun k hk hd => ?_⟩
    · cases ht; exact o2 u (.inl rfl)
    · exact (o3 k hk ((wakeAll_done _ _).1 hd)).imp_right nofun
  | spuriousR u =>
    refine ⟨o1, fun t ht => ?_, fun k hk hd => (o3 k hk hd).imp_right nofun⟩
    cases ht.resolve_right nofun; exact o2 u (.inr rfl)

theorem own_run (s : St) (σ : List Tid) (o : Own n s) : Own n (run e s σ) :=
  run_inv (fun _ _ _ h => own_step h) s σ o

/-! ## bounded work -/

theorem minor_le (s : St) (n : Nat) : minor s n ≤ n + 1 := by
  have := cnt_le (fun p => p = .sent || p = .runnable) s.c n
  -- `decide` refuses the token the constructor carries; the comparison evaluates all the same
  have : rcheck s.r ≤ 1 := by cases s.r <;> exact Nat.le_of_ble_eq_true rfl
  unfold minor; omega

/-- one unit of `major` outweighs any `minor` -/
theorem rank_major (h : major s' n + 1 ≤ major s n) : rank s' n < rank s n := by
  have h1 := Nat.mul_le_mul_left (n + 2) h
  rw [Nat.mul_add, Nat.mul_one] at h1
  have := minor_le s' n
  unfold rank; omega

theorem rank_minor (h : major s' n = major s n) (hm : minor s' n + 1 ≤ minor s n) : rank s' n < rank s n := by
  unfold rank; rw [h]; omega

theorem waiting_minor {p : CPc} (h : p = .sent ∨ p = .runnable) : (decide (p = .sent) || decide (p = .runnable)) = true := by
  rcases h with h | h <;> rw [h] <;> rfl

theorem cnt_idle_upd_waiting {c : Nat → CPc} {i : Nat} (v : CPc) (n : Nat) (h : c i = .sent ∨ c i = .runnable)
    (hv : v ≠ .idle) : cnt (· = .idle) (upd c i v) n = cnt (· = .idle) c n :=
  cnt_upd_same _ n ((decide_eq_false hv).trans (decide_eq_false (waiting_ne h (by decide) (by decide))).symm)

/-- Every effective step of a caller or of the reloader (i.e. every step that is not a spurious
wake-up) strictly decreases the rank, in every environment. -/
theorem rank_step (b : Bound n s) (h : Step e s t s') (ht : t = .reloader ∨ ∃ i, t = .caller i) :
    rank s' n < rank s n := by
  -- `major` weighs a token by the moves it still has to make: 6 at an idle caller, 5 in the channel, 4 / 3 in
  -- the reloader's hand (update running / to be published), 1 in the slot. Each rule but `wait` and `full`
  -- lowers one weight; those two keep `major` and retire one pending re-check of `minor`.
  cases h with
  | sendDead i hc =>  -- 6 → 0
    have := cnt_upd_drop (· = .idle) (v := .done) (b i (ne_of_eq_of_ne hc (by decide))) (decide_eq_true hc) rfl
    exact rank_major (by simp only [major]; omega)
  | send i hc =>  -- 6 → 5
    have := cnt_upd_drop (· = .idle) (v := .sent) (b i (ne_of_eq_of_ne hc (by decide))) (decide_eq_true hc) rfl
    exact rank_major (by simp only [major, List.length_append, List.length_singleton]; omega)
  | takeWake i _ hc =>  -- 1 → 0; waking changes no weight
    have := cnt_idle_upd_waiting .done n hc (by decide)
    exact rank_major (by simp only [major, cnt_wakeAll (· = .idle) _ _ rfl, rweight_wakeR, this]; simp)
  | takeSilent i _ hc =>  -- 1 → 0
    have := cnt_idle_upd_waiting .done n hc (by decide)
    exact rank_major (by simp only [major, this]; simp)
  | wait i hc =>  -- the caller leaves `sent` / `runnable`
    have hi := b i (waiting_ne hc (by decide) (by decide))
    have := cnt_idle_upd_waiting .sleeping n hc (by decide)
    have := cnt_upd_drop (fun p => p = .sent || p = .runnable) (v := .sleeping) hi (waiting_minor hc) rfl
    exact rank_minor (by simp only [major, *]) (by simp only [minor]; omega)
  | recv => exact rank_major (by simp only [major, rweight, List.length_cons]; omega)  -- 5 → 4
  | served | dies | aborts => exact rank_major (by simp only [major, rweight]; omega)  -- 4 → 3, or 4 → 0
  | full => exact rank_minor rfl (by simp only [minor, rcheck]; omega)  -- `rcheck`: `pub` 1 → `sleep` 0
  | publish => exact rank_major (by simp only [major, rweight, cnt_wakeAll (· = .idle) _ _ rfl]; simp)  -- 3 → 1
  | spurious | spuriousR => exact ht.elim nofun nofun

/-- number of effective (non-stutter) steps of a schedule -/
def work (e : Env) : St → List Tid → Nat
  | _, [] => 0
  | s, t :: ts => match step e s t with | some s' => work e s' ts + 1 | none => work e s ts

def NoSpurious (σ : List Tid) : Prop := ∀ t ∈ σ, t = .reloader ∨ ∃ i, t = .caller i

theorem work_le_rank (s : St) (σ : List Tid) (b : Bound n s) (hσ : NoSpurious σ) :
    work e s σ + rank (run e s σ) n ≤ rank s n := by
  induction σ generalizing s with
  | nil => exact Nat.le_of_eq (Nat.zero_add _)
  | cons t ts ih =>
    have hts : NoSpurious ts := fun x hx => hσ x (List.mem_cons_of_mem _ hx)
    cases hs : step e s t with
    | none => simp only [work, run, hs]; exact ih s b hts
    | some s' =>
      have := ih s' (bound_step (.of_step hs) b) hts
      have := rank_step b (.of_step hs) (hσ t (List.mem_cons_self ..))
      simp only [work, run, hs]; omega

theorem rank_init (n : Nat) : rank (init n) n = (n + 2) * (6 * n) := by
  -- all `n` calls are idle
  have idle : ∀ p, cnt p (init n).c n = if p .idle then n else 0 := fun p =>
    (cnt_congr p n fun k hk => congrArg p (if_pos hk)).trans (cnt_const p .idle n)
  unfold rank major minor
  rw [idle, idle]
  rfl

/-! ## the process is aborted only by an overflowing update pass; the thread dies only by an uncaught panic -/

theorem alive_step (h : Step e s t s') :
    (s'.r = .aborted → s.r = .aborted ∨ ∃ u, e.upd u = .overflow) ∧
    (s'.r = .dead → s.r = .dead ∨ ∃ u, e.upd u = .panics ∧ e.catchesPanic = false) := by
  cases h with
  | sendDead | send | takeSilent | wait | spurious => exact ⟨.inl, .inl⟩
  | takeWake => exact ⟨fun h => .inl ((wakeR_aborted _).1 h), fun h => .inl ((wakeR_dead _).1 h)⟩
  | recv | served | full | publish | spuriousR => exact ⟨nofun, nofun⟩
  | dies u hu hc => exact ⟨nofun, fun _ => .inr ⟨u, hu, hc⟩⟩
  | aborts u hu => exact ⟨fun _ => .inr ⟨u, hu⟩, nofun⟩

theorem alive_run (e : Env) (s : St) (σ : List Tid) :
    ((run e s σ).r = .aborted → s.r = .aborted ∨ ∃ u, e.upd u = .overflow) ∧
    ((run e s σ).r = .dead → s.r = .dead ∨ ∃ u, e.upd u = .panics ∧ e.catchesPanic = false) :=
  run_inv (P := fun s' => (s'.r = .aborted → s.r = .aborted ∨ ∃ u, e.upd u = .overflow) ∧
      (s'.r = .dead → s.r = .dead ∨ ∃ u, e.upd u = .panics ∧ e.catchesPanic = false))
    (fun _ _ _ h p => ⟨fun ha => ((alive_step h).1 ha).elim p.1 .inr, fun hd => ((alive_step h).2 hd).elim p.2 .inr⟩)
    s σ ⟨.inl, .inl⟩

end AmVerif.Lemmas.MailboxRank
