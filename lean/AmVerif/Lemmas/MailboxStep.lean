import AmVerif.Model.Reloader
/-!
# The transitions of the mailbox as rules

`Step e s t s'` has one rule for each way in which `step e s t` answers `some s'`, and `Step.of_step`
is that inversion; `run_inv` carries what every rule preserves along a schedule. Only the inversion is
stated, not an equivalence: a rule carries every guard `step` tests on its path, also those no proof has
needed so far (`r ≠ .dead` on `send`, `r ≠ .aborted` on the callers' rules). With them: the lemmas of `upd`,
`wakeAll` and `wakeR`, and when a caller or the reloader can move.
-/
namespace AmVerif.Lemmas.MailboxStep
open AmVerif.Model.Reloader

/-- One rule per arm of `step`, pre- and post-state written out field by field
(`c, queue, slot, r, served`), so that `cases` on a `Step` leaves nothing to rewrite. -/
inductive Step (e : Env) : St → Tid → St → Prop
  /-- `HotReloader::reload`: `send` fails once the thread is gone, and the call returns without waiting -/
  | sendDead {c q sl sv} (i : Nat) : c i = .idle →
      Step e ⟨c, q, sl, .dead, sv⟩ (.caller i) ⟨upd c i .done, q, sl, .dead, sv⟩
  /-- `HotReloader::reload`: `sender.send(Ptr(.., token))` -/
  | send {c q sl r sv} (i : Nat) : c i = .idle → r ≠ .dead → r ≠ .aborted →
      Step e ⟨c, q, sl, r, sv⟩ (.caller i) ⟨upd c i .sent, q ++ [i], sl, r, sv⟩
  /-- `Answers::wait_for_answer` finds its own token, empties the slot and calls `notify_all` -/
  | takeWake {c q r sv} (i : Nat) : e.waitNotifies = true → c i = .sent ∨ c i = .runnable → r ≠ .aborted →
      Step e ⟨c, q, some i, r, sv⟩ (.caller i) ⟨wakeAll (upd c i .done), q, none, wakeR r, sv⟩
  /-- ... or does not call it (F-C08a) -/
  | takeSilent {c q r sv} (i : Nat) : e.waitNotifies = false → c i = .sent ∨ c i = .runnable → r ≠ .aborted →
      Step e ⟨c, q, some i, r, sv⟩ (.caller i) ⟨upd c i .done, q, none, r, sv⟩
  /-- `wait_for_answer`'s `wait_while`: the slot does not hold the own token, release the lock and sleep -/
  | wait {c q sl r sv} (i : Nat) : c i = .sent ∨ c i = .runnable → sl ≠ some i → r ≠ .aborted →
      Step e ⟨c, q, sl, r, sv⟩ (.caller i) ⟨upd c i .sleeping, q, sl, r, sv⟩
  /-- the thread loop receives a `Ptr` message -/
  | recv {c q sl sv} (t : Nat) :
      Step e ⟨c, t :: q, sl, .recv, sv⟩ .reloader ⟨c, q, sl, .upd t, sv⟩
  /-- the update pass returns (a loader panic caught by `catch_unwind` included) -/
  | served {c q sl sv} (t : Nat) : e.upd t = .ok ∨ e.upd t = .panics ∧ e.catchesPanic = true →
      Step e ⟨c, q, sl, .upd t, sv⟩ .reloader ⟨c, q, sl, .pub t, t :: sv⟩
  /-- an uncaught loader panic unwinds the thread (F-C09) -/
  | dies {c q sl sv} (t : Nat) : e.upd t = .panics → e.catchesPanic = false →
      Step e ⟨c, q, sl, .upd t, sv⟩ .reloader ⟨c, q, sl, .dead, sv⟩
  /-- the visit overflows the stack: the process is aborted (F-C08b) -/
  | aborts {c q sl sv} (t : Nat) : e.upd t = .overflow →
      Step e ⟨c, q, sl, .upd t, sv⟩ .reloader ⟨c, q, sl, .aborted, sv⟩
  /-- `Answers::notify`'s `wait_while`: the slot is still occupied, release the lock and sleep -/
  | full {c q sv} (t u : Nat) :
      Step e ⟨c, q, some u, .pub t, sv⟩ .reloader ⟨c, q, some u, .sleep t, sv⟩
  /-- `Answers::notify` publishes the token and calls `notify_all` -/
  | publish {c q sv} (t : Nat) :
      Step e ⟨c, q, none, .pub t, sv⟩ .reloader ⟨wakeAll c, q, some t, .recv, sv⟩
  /-- spurious condvar wake-up of a caller -/
  | spurious {c q sl r sv} (i : Nat) : c i = .sleeping → r ≠ .aborted →
      Step e ⟨c, q, sl, r, sv⟩ (.spurious i) ⟨upd c i .runnable, q, sl, r, sv⟩
  /-- ... and of the reloader -/
  | spuriousR {c q sl sv} (t : Nat) :
      Step e ⟨c, q, sl, .sleep t, sv⟩ .spuriousR ⟨c, q, sl, .pub t, sv⟩

theorem Step.of_step {e : Env} {s s' : St} {t : Tid} (h : step e s t = some s') : Step e s t s' := by
  obtain ⟨c, q, sl, r, sv⟩ := s
  unfold step at h
  cases t with
  | caller i =>
    dsimp only at h
    by_cases hab : r = .aborted
    · rw [if_pos hab] at h; cases h
    rw [if_neg hab] at h
    generalize hp : c i = p at h
    cases p with
    | idle =>
      dsimp only at h
      by_cases hd : r = .dead
      · rw [if_pos hd] at h; cases h; subst hd; exact .sendDead i hp
      · rw [if_neg hd] at h; cases h; exact .send i hp hd hab
    | sent | runnable =>
      have hc : c i = .sent ∨ c i = .runnable := by rw [hp]; decide
      dsimp only at h
      by_cases hsl : sl = some i
      · rw [if_pos hsl] at h; cases h; subst hsl
        by_cases hw : e.waitNotifies = true
        · rw [if_pos hw]; exact .takeWake i hw hc hab
        · rw [if_neg hw]; exact .takeSilent i (Bool.eq_false_iff.mpr hw) hc hab
      · rw [if_neg hsl] at h; cases h; exact .wait i hc hsl hab
    | sleeping | done => cases h
  | reloader =>
    cases r with
    | recv =>
      cases q with
      | nil => cases h
      | cons t q => cases h; exact .recv t
    | upd t =>
      dsimp only at h
      generalize hu : e.upd t = u at h
      cases u with
      | ok => cases h; exact .served t (.inl hu)
      | panics =>
        dsimp only at h
        by_cases hc : e.catchesPanic = true
        · rw [if_pos hc] at h; cases h; exact .served t (.inr ⟨hu, hc⟩)
        · rw [if_neg hc] at h; cases h; exact .dies t hu (Bool.eq_false_iff.mpr hc)
      | overflow => cases h; exact .aborts t hu
    | pub t =>
      cases sl with
      | none => cases h; exact .publish t
      | some u => cases h; exact .full t u
    | sleep | dead | aborted => cases h
  | spurious i =>
    dsimp only at h
    by_cases hc : r ≠ .aborted ∧ c i = .sleeping
    · rw [if_pos hc] at h; cases h; exact .spurious i hc.2 hc.1
    · rw [if_neg hc] at h; cases h
  | spuriousR =>
    cases r with
    | sleep t => cases h; exact .spuriousR t
    | _ => cases h

variable {e : Env}

theorem run_inv {P : St → Prop} (hP : ∀ s t s', Step e s t s' → P s → P s') (s : St) (σ : List Tid) (h : P s) :
    P (run e s σ) := by
  induction σ generalizing s with
  | nil => exact h
  | cons t ts ih =>
    unfold run
    cases hs : step e s t with
    | some s' => exact ih s' (hP s t s' (.of_step hs) h)
    | none => exact ih s h

theorem ne_of_eq_of_ne {α : Sort _} {a b c : α} (h : a = b) (hbc : b ≠ c) : a ≠ c := h ▸ hbc

theorem isSome_ite_some {α : Type _} {c : Prop} [Decidable c] {a b : α} : (if c then some a else some b).isSome = true := by
  split <;> rfl

/-! ## `upd`, `wakeAll`, `wakeR` -/

theorem upd_self (c : Nat → CPc) (i : Nat) (v : CPc) : upd c i v i = v := if_pos rfl
theorem upd_of_ne (c : Nat → CPc) (v : CPc) {k i : Nat} (h : k ≠ i) : upd c i v k = c k := if_neg h

theorem upd_ne {c : Nat → CPc} {i k : Nat} {v x : CPc} (hv : v ≠ x) (hk : c k ≠ x) : upd c i v k ≠ x := by
  unfold upd; split
  · exact hv
  · exact hk

/-- `c i := v` is invisible at a `k` whose value `c i` does not have -/
theorem upd_keeps {c : Nat → CPc} {i k : Nat} {x : CPc} (v : CPc) (hi : c i ≠ x) (hk : c k = x) : upd c i v k = x := by
  rw [upd_of_ne c v (fun h : k = i => hi (h ▸ hk))]; exact hk

theorem done_of_upd {c : Nat → CPc} {i k : Nat} {v : CPc} (hv : v ≠ .done) (h : upd c i v k = .done) : c k = .done := by
  by_cases hk : k = i
  · subst hk; rw [upd_self] at h; exact absurd h hv
  · rwa [upd_of_ne c v hk] at h

theorem done_of_upd_done {c : Nat → CPc} {i k : Nat} (h : upd c i .done k = .done) : k = i ∨ c k = .done := by
  by_cases hk : k = i
  · exact .inl hk
  · rw [upd_of_ne c _ hk] at h; exact .inr h

theorem active_upd (c : Nat → CPc) (i : Nat) (v : CPc) (k : Nat) :
    active (upd c i v k) = if k = i then active v else active (c k) := by
  unfold upd; split <;> rfl

theorem wakeAll_sleeping {c : Nat → CPc} {k : Nat} (h : c k = .sleeping) : wakeAll c k = .runnable := if_pos h
theorem wakeAll_of_ne {c : Nat → CPc} {k : Nat} (h : c k ≠ .sleeping) : wakeAll c k = c k := if_neg h

theorem wakeAll_done (c : Nat → CPc) (k : Nat) : wakeAll c k = .done ↔ c k = .done := by
  by_cases h : c k = .sleeping
  · rw [wakeAll_sleeping h, h]; exact ⟨nofun, nofun⟩
  · rw [wakeAll_of_ne h]

theorem wakeAll_ne_sleeping (c : Nat → CPc) (k : Nat) : wakeAll c k ≠ .sleeping := by
  by_cases h : c k = .sleeping
  · rw [wakeAll_sleeping h]; nofun
  · rw [wakeAll_of_ne h]; exact h

theorem active_wakeAll (c : Nat → CPc) (k : Nat) : active (wakeAll c k) = active (c k) := by
  by_cases h : c k = .sleeping
  · rw [wakeAll_sleeping h, h]; rfl
  · rw [wakeAll_of_ne h]

theorem wakeR_dead (r : RPc) : wakeR r = .dead ↔ r = .dead := by
  cases r with
  | sleep t => exact ⟨nofun, nofun⟩
  | _ => exact Iff.rfl

theorem wakeR_aborted (r : RPc) : wakeR r = .aborted ↔ r = .aborted := by
  cases r with
  | sleep t => exact ⟨nofun, nofun⟩
  | _ => exact Iff.rfl

theorem wakeR_ne_sleep (r : RPc) (t : Nat) : wakeR r ≠ .sleep t := by cases r <;> nofun

theorem wakeR_holding {r : RPc} {t : Nat} (h : wakeR r = .pub t ∨ wakeR r = .sleep t) : r = .pub t ∨ r = .sleep t := by
  cases r with
  | sleep u => exact h.elim (fun h => .inr (congrArg _ (RPc.pub.inj h))) nofun
  | _ => exact h

theorem holds_wakeR (r : RPc) (t : Nat) : holds (wakeR r) t = holds r t := by cases r <;> rfl
theorem rweight_wakeR (r : RPc) : rweight (wakeR r) = rweight r := by cases r <;> rfl

/-! ## the caller that moves in `wait_for_answer` is at `sent` or `runnable` -/

theorem waiting_ne {p x : CPc} (h : p = .sent ∨ p = .runnable) (h1 : x ≠ .sent) (h2 : x ≠ .runnable) : p ≠ x := by
  rcases h with h | h <;> rw [h] <;> exact Ne.symm ‹_›

theorem active_of_waiting {p : CPc} (h : p = .sent ∨ p = .runnable) : active p = true := by
  rcases h with h | h <;> rw [h] <;> rfl

/-! ## enabledness -/

theorem caller_enabled (e : Env) {s : St} {k : Nat} (hr : s.r ≠ .aborted) (h1 : s.c k ≠ .sleeping) (h2 : s.c k ≠ .done) :
    (step e s (.caller k)).isSome := by
  unfold step
  dsimp only
  rw [if_neg hr]
  generalize s.c k = p at h1 h2
  cases p with
  | sleeping => exact absurd rfl h1
  | done => exact absurd rfl h2
  | idle | sent | runnable => exact isSome_ite_some

theorem reloader_enabled (e : Env) {s : St}
    (h : (∃ t q, s.queue = t :: q ∧ s.r = .recv) ∨ (∃ t, s.r = .upd t) ∨ ∃ t, s.r = .pub t) :
    (step e s .reloader).isSome := by
  unfold step
  dsimp only
  rcases h with ⟨t, q, hq, h⟩ | ⟨t, h⟩ | ⟨t, h⟩ <;> rw [h] <;> dsimp only
  · rw [hq]; rfl
  · cases e.upd t with
    | ok | overflow => rfl
    | panics => exact isSome_ite_some
  · exact isSome_ite_some

/-! ## what the executable `deadlocked` says -/

theorem allDone_false {s : St} : ∀ n, allDone s n = false → ∃ i, i < n ∧ s.c i ≠ .done
  | 0, h => by simp [allDone] at h
  | n+1, h => by
    simp only [allDone, Bool.and_eq_false_iff, decide_eq_false_iff_not] at h
    rcases h with h | h
    · exact ⟨n, by omega, h⟩
    · obtain ⟨i, hi, hc⟩ := allDone_false n h; exact ⟨i, by omega, hc⟩

theorem anyCallerEnabled_false {s : St} : ∀ n, anyCallerEnabled e s n = false → ∀ k, k < n → step e s (.caller k) = none
  | 0, _, k, hk => by omega
  | n+1, h, k, hk => by
    simp only [anyCallerEnabled, Bool.or_eq_false_iff] at h
    by_cases hkn : k = n
    · subst hkn; simpa using h.1
    · exact anyCallerEnabled_false n h.2 k (by omega)

theorem step_done_none (e : Env) (s : St) (k : Nat) (h : s.c k = .done) : step e s (.caller k) = none := by
  simp only [step, h]; split <;> rfl

end AmVerif.Lemmas.MailboxStep
