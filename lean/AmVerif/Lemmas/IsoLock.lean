import AmVerif.Lemmas.IsoStep
/-!
# The lock / words invariant of `Model/Iso.lean`

`LockInv` is preserved by every step of every thread when the extracted configuration is
well-formed (`Cfg.WF`); the property theorems in `Props/C07.lean` are read off it.
-/
namespace AmVerif.Lemmas.IsoLock
open AmVerif.Model.Iso

/-- What the invariant says of a guard of reader `r` under which `ow` and `oid` were observed: it really
holds the read lock, belongs to one of the `n` readers and excludes the writer; everything observed
under it is still what the entry holds. The state enters through the fields that are read (`k`, `n`,
`words`, `rid`, `wheld`), so a state that differs in other fields satisfies it by unfolding. -/
structure Guard (k n : Nat) (words : Nat → Nat) (rid : Nat) (wheld : Option LockKind) (r : Nat) (l : Bool)
    (ow : List (Nat × Nat)) (oid : List Nat) : Prop where
  locked : l = true
  lt : r < n
  excl : wheld ≠ some .write
  words_eq : ∀ p ∈ ow, p.1 < k ∧ words p.1 = p.2
  rid_eq : ∀ x ∈ oid, x = rid

def RdOk (cfg : Cfg) (s : St) (r : Nat) : RS → Prop
  | .idle => True
  | .hold l ow oid => Guard cfg.k s.n s.words s.rid s.wheld r l ow oid

/-- The lock discipline (`wf`, `rd`) and how far the word-by-word copy has got (`ci_le`, `ci_pos`, `shape`).
In `shape`, `cp` and `ic` are the ghost arguments of `ordOk` for what is left of the running `write`
call: a copy has been completed in this call, the id has been incremented in this call. They carry the
two facts every case of `writer_step` and `rl_step` turns on: until the increment the id is strictly
behind the version being installed (`ic = false → rid < ver`), and once a copy is complete every word
carries that version (`cp = true → base = ver`). So `inc`, which `ordOk` allows only at `cp` and not
`ic`, keeps `rid ≤ base`. Between calls `ic = true` (hence in `init_inv`), which claims nothing of `rid`
and `ver`; a call starts by raising `ver`, and that gives `rid < ver` with `ic = false`. -/
structure LockInv (cfg : Cfg) (s : St) : Prop where
  wf : wfW s.wheld s.wrest = true
  rd : ∀ r, RdOk cfg s r (s.rd r)
  ci_le : s.ci ≤ cfg.k
  ci_pos : 0 < s.ci → ∃ rest, s.wrest = .copy :: rest
  /-- the first `ci` words carry the version being installed, the others the version `base` -/
  shape : ∃ base cp ic, (∀ i, i < cfg.k → s.words i = if i < s.ci then s.ver else base) ∧ s.rid ≤ base ∧ base ≤ s.ver ∧
      ordOk cp ic s.wrest = true ∧ (ic = false → s.rid < s.ver) ∧ (cp = true → base = s.ver)

variable {cfg : Cfg} {s s' : St}

theorem init_inv (cfg : Cfg) (n : Nat) : LockInv cfg (init n) where
  wf := rfl
  rd := fun _ => trivial
  ci_le := Nat.zero_le _
  ci_pos := by intro h; simp [init] at h
  shape := ⟨0, false, true, (by intro i _; simp [init]), Nat.le_refl _, Nat.le_refl _, rfl, (by intro h; cases h), (by intro h; cases h)⟩

theorem LockInv.hold (h : LockInv cfg s) {r : Nat} {l : Bool} {ow : List (Nat × Nat)} {oid : List Nat}
    (e : s.rd r = .hold l ow oid) : Guard cfg.k s.n s.words s.rid s.wheld r l ow oid := by
  have := h.rd r
  rw [e] at this
  exact this

/-- The lock may change hands as long as no guard meets `write`. -/
theorem RdOk.wheld {r : Nat} {x : RS} (h : RdOk cfg s r x) {wheld : Option LockKind}
    (hw : wheld = some .write → s.wheld = some .write ∨ x = .idle) : RdOk cfg { s with wheld } r x := by
  cases x with
  | idle => trivial
  | hold l ow oid => exact { h with excl := fun e => (hw e).elim h.excl nofun }

/-- No reader holds a guard while the writer holds `write`. -/
theorem no_holder (h : LockInv cfg s) (hw : s.wheld = some .write) (r : Nat) : s.rd r = .idle := by
  cases e : s.rd r with
  | idle => rfl
  | hold l ow oid => exact absurd hw (h.hold e).excl

/-- Under the write lock the readers' part of the invariant holds whatever else a step changes. -/
theorem LockInv.rd_idle (h : LockInv cfg s) (hw : s.wheld = some .write) (er : s'.rd = s.rd) (r : Nat) :
    RdOk cfg s' r (s'.rd r) := by
  rw [er, no_holder h hw r]; trivial

theorem not_locked_of (h : s.readersLocked = false) (r : Nat) (hr : r < s.n) : (s.rd r).locked = false := by
  unfold St.readersLocked at h
  rw [List.any_eq_false] at h
  have := h r (List.mem_range.mpr hr)
  simpa using this

/-- Guards are locked, so when no reader is locked there is no guard. -/
theorem no_holder_of_unlocked (h : LockInv cfg s) (hl : s.readersLocked = false) (r : Nat) :
    s.rd r = .idle := by
  cases e : s.rd r with
  | idle => rfl
  | hold l ow oid =>
    have nl := not_locked_of hl r (h.hold e).lt
    rw [e, (h.hold e).locked] at nl
    cases nl

/-! ### Steps that move only part of the state -/

/-- Reader `r` moves to a state that is fine by itself: the invariant stays. -/
theorem LockInv.rd_update (h : LockInv cfg s) (r : Nat) {x : RS} (hx : RdOk cfg s r x) :
    LockInv cfg { s with rd := upd s.rd r x } := by
  refine { h with rd := fun r2 => ?_ }
  show RdOk cfg _ r2 (upd s.rd r x r2)
  by_cases e : r2 = r
  · subst e; rw [upd_same]; exact hx
  · rw [upd_other e]; exact h.rd r2

/-- A step that leaves readers, words, id, version and copy index alone: the lock mode may change as
long as `write` is taken only when no guard is out, and the `write` program may move on past steps
that `ordOk` ignores. -/
theorem LockInv.frame (h : LockInv cfg s) {flag : Bool} {wheld : Option LockKind} {wrest : List WStep}
    {rrest : List RStep} {cur : Nat} {queue answered : List Nat} {cl : Nat → CS} {nextTok : Nat} {log : List Ev}
    (hwf : wfW wheld wrest = true)
    (hw : wheld = some .write → s.wheld = some .write ∨ ∀ r, s.rd r = .idle)
    (hci : 0 < s.ci → ∃ rest, wrest = .copy :: rest)
    (hord : ∀ cp ic, ordOk cp ic s.wrest = true → ordOk cp ic wrest = true) :
    LockInv cfg { s with flag, wheld, wrest, rrest, cur, queue, answered, cl, nextTok, log } where
  wf := hwf
  rd := fun r => (h.rd r).wheld fun e => (hw e).imp id fun x => x r
  ci_le := h.ci_le
  ci_pos := hci
  shape := by
    obtain ⟨base, cp, ic, hwords, hrb, hbv, ho, hic, hcp⟩ := h.shape
    exact ⟨base, cp, ic, hwords, hrb, hbv, hord cp ic ho, hic, hcp⟩

theorem reader_step (hc : cfg.WF = true) (h : LockInv cfg s) (r : Nat) (a : Act) :
    LockInv cfg (stepReader cfg s r a) := by
  obtain ⟨_, _, hrl, hmk, _, _⟩ := wf_parts hc
  rcases stepReader_cases cfg s r a with e | ⟨x, hm, e⟩
  · rw [e]; exact h
  · rw [e]
    refine h.rd_update r ?_
    have h0 := h.rd r
    generalize s.rd r = y at hm h0
    cases hm with
    | acq hn hw => exact ⟨hrl, hn, hw hrl, nofun, nofun⟩
    | readW i hi =>
      refine { h0 with words_eq := fun p hp => ?_ }
      rcases List.mem_cons.mp hp with rfl | hp
      · exact ⟨hi, rfl⟩
      · exact h0.words_eq p hp
    | readId =>
      refine { h0 with rid_eq := fun x hx => ?_ }
      rcases List.mem_cons.mp hx with rfl | hx
      · rfl
      · exact h0.rid_eq x hx
    | map => exact { h0 with locked := by rw [h0.locked, hmk]; rfl }
    | rel => trivial

/-! ### Caller steps touch nothing the invariant mentions -/

theorem caller_step (h : LockInv cfg s) (c : Nat) (a : Act) :
    LockInv cfg (stepCaller cfg s c a) := by
  rcases stepCaller_cases cfg s c a with e | ⟨_, e⟩ | ⟨_, _, e⟩ | ⟨_, _, _, e⟩ <;> rw [e]
  · exact h
  all_goals exact h.frame h.wf Or.inl h.ci_pos (fun _ _ x => x)

/-- `copy` and `inc` are well-formed only under the write lock, and leave it held. -/
theorem wfW_write {held : Option LockKind} {w : WStep} {rest : List WStep} (h : wfW held (w :: rest) = true)
    (hw : w = .copy ∨ w = .inc) : held = some .write ∧ wfW held rest = true := by
  rcases hw with rfl | rfl <;> simpa only [wfW, Bool.and_eq_true, beq_iff_eq] using h

theorem write_held (h : LockInv cfg s) {w : WStep} {rest : List WStep} (e : s.wrest = w :: rest)
    (hw : w = .copy ∨ w = .inc) : s.wheld = some .write :=
  (wfW_write (e ▸ h.wf) hw).1

theorem writer_step (h : LockInv cfg s) (w : WStep) (rest : List WStep)
    (e : s.wrest = w :: rest) : LockInv cfg (stepW cfg s w rest) := by
  have hwf := h.wf
  rw [e] at hwf
  -- what `LockInv.frame` asks of the steps that are neither `copy` nor `inc`
  have hci : w ≠ .copy → 0 < s.ci → ∃ rest', rest = .copy :: rest' := fun hw hp =>
    (h.ci_pos hp).elim fun _ e' => absurd (List.cons.inj (e.symm.trans e')).1 hw
  have hord : ∀ cp ic, ordOk cp ic s.wrest = true → ordOk cp ic (w :: rest) = true := fun cp ic x => e ▸ x
  obtain ⟨base, cp, ic, hwords, hrb, hbv, ho, hic, hcp⟩ := h.shape
  rw [e] at ho
  cases w with
  | acq k =>
    simp only [wfW, Bool.and_eq_true] at hwf
    cases k with
    | read =>
      simp only [stepW]
      split
      · exact h.frame hwf.2 nofun (hci nofun) hord
      · exact h
    | write =>
      simp only [stepW]
      split
      · rename_i hen
        exact h.frame hwf.2 (fun _ => Or.inr (no_holder_of_unlocked h hen.2)) (hci nofun) hord
      · exact h
  | setFlag => exact h.frame hwf Or.inl (hci nofun) hord
  | rel =>
    simp only [wfW, Bool.and_eq_true] at hwf
    exact h.frame hwf.2 nofun (hci nofun) hord
  | copy =>
    obtain ⟨hheld, hwf'⟩ := wfW_write hwf (.inl rfl)
    simp only [stepW]
    split
    · -- word `ci` now carries `ver`; the program stays at `copy`
      rename_i hlt
      refine { h with
        rd := h.rd_idle hheld rfl
        ci_le := Nat.succ_le_of_lt hlt
        ci_pos := fun _ => ⟨rest, e⟩
        shape := ⟨base, cp, ic, fun i hi => ?_, hrb, hbv, by rw [e]; exact ho, hic, hcp⟩ }
      show upd s.words s.ci s.ver i = if i < s.ci + 1 then s.ver else base
      rcases Nat.lt_trichotomy i s.ci with hl | rfl | hg
      · rw [upd_other (Nat.ne_of_lt hl), hwords i hi, if_pos hl, if_pos (Nat.lt_succ_of_lt hl)]
      · rw [upd_same, if_pos (Nat.lt_succ_self _)]
      · rw [upd_other (Nat.ne_of_gt hg), hwords i hi, if_neg (Nat.lt_asymm hg), if_neg (Nat.not_lt.mpr hg)]
    · -- the copy is complete: all `k` words carry `ver`, which becomes `base`, and `cp := true`
      rename_i hge
      have hk : s.ci = cfg.k := Nat.le_antisymm h.ci_le (Nat.le_of_not_lt hge)
      refine { h with
        wf := hwf'
        ci_le := Nat.zero_le _
        ci_pos := fun h0 => absurd h0 (Nat.lt_irrefl 0)
        shape := ⟨s.ver, true, ic, fun i hi => ?_, Nat.le_trans hrb hbv, Nat.le_refl _, ho, hic, fun _ => rfl⟩ }
      show s.words i = if i < 0 then s.ver else s.ver
      rw [hwords i hi, hk, if_pos hi, ite_self]
  | inc =>
    obtain ⟨hheld, hwf'⟩ := wfW_write hwf (.inr rfl)
    simp only [ordOk, Bool.and_eq_true, Bool.not_eq_true'] at ho
    obtain ⟨⟨hcp1, hic0⟩, ho'⟩ := ho
    -- `ordOk` allows `inc` at `cp` and not `ic`: every word carries `ver` and `rid < ver`; now `ic := true`
    refine { h with
      wf := hwf'
      rd := h.rd_idle hheld rfl
      ci_pos := hci nofun
      shape := ⟨base, cp, true, hwords, ?_, hbv, ho', nofun, hcp⟩ }
    have := hic hic0
    have := hcp hcp1
    show s.rid + 1 ≤ base
    omega

theorem rl_step (hc : cfg.WF = true) (h : LockInv cfg s) (more : Bool) :
    LockInv cfg (stepRl cfg s more) := by
  obtain ⟨hw0, ho0, _, _, _, _⟩ := wf_parts hc
  unfold stepRl
  split
  · rename_i w rest e; exact writer_step h w rest e
  · rename_i e
    split
    · -- no arm is running: the next request, if any, is taken from the channel
      split
      · exact h.frame h.wf Or.inl h.ci_pos (fun _ _ x => x)
      · exact h
    · -- the arm is at `update`
      split
      · -- a `write` call starts: between calls nothing is held and no copy is under way
        have hci : s.ci = 0 := Nat.eq_zero_of_not_pos fun hp => by
          obtain ⟨r', e'⟩ := h.ci_pos hp; rw [e] at e'; cases e'
        have hnone : s.wheld = none := by
          have := h.wf; rw [e] at this
          cases hh : s.wheld with
          | none => rfl
          | some k => rw [hh] at this; cases this
        obtain ⟨base, cp, ic, hwords, hrb, hbv, _, _, _⟩ := h.shape
        -- `ver` is raised, so `rid ≤ base ≤ ver` becomes `rid < ver + 1`, with `cp = ic = false`
        refine { h with
          wf := by show wfW s.wheld cfg.wprog = true; rw [hnone]; exact hw0
          ci_pos := fun hp => ?_
          shape := ⟨base, false, false, fun i hi => ?_, hrb, Nat.le_succ_of_le hbv, ho0,
            fun _ => Nat.lt_succ_of_le (Nat.le_trans hrb hbv), nofun⟩ }
        · rw [hci] at hp; exact absurd hp (Nat.lt_irrefl 0)
        · show s.words i = if i < s.ci then s.ver + 1 else base
          rw [hwords i hi, hci]; rfl
      · exact h.frame h.wf Or.inl h.ci_pos (fun _ _ x => x)
    · -- the arm is at `notify`
      exact h.frame h.wf Or.inl h.ci_pos (fun _ _ x => x)

theorem step_inv (hc : cfg.WF = true) (h : LockInv cfg s) (a : Act) : LockInv cfg (step cfg s a) :=
  step_cases (reader_step hc h) (rl_step hc h) (caller_step h) a

theorem run_inv (hc : cfg.WF = true) (s : St) (h : LockInv cfg s) (σ : List Act) : LockInv cfg (run cfg s σ) :=
  run_induction (P := LockInv cfg) (fun _ a h => step_inv hc h a) s h σ

theorem lockInv_run (hc : cfg.WF = true) (n : Nat) (σ : List Act) : LockInv cfg (run cfg (init n) σ) :=
  run_inv hc _ (init_inv cfg n) σ

/-! ### What the invariant gives -/

/-- While a guard is out no step changes the entry: such a step would be a `copy` or `inc`, which needs `write`. -/
theorem guard_pins_gen (h : LockInv cfg s) (r : Nat) (hr : (s.rd r).holding = true) (a : Act) :
    (step cfg s a).words = s.words ∧ (step cfg s a).rid = s.rid := by
  refine (step_words_rid cfg s a).resolve_right fun ⟨w, rest, e, hw, _⟩ => ?_
  rw [no_holder h (write_held h e hw) r] at hr
  cases hr

/-- All words observed under one guard carry the same version. -/
theorem no_torn_gen (h : LockInv cfg s) (r : Nat) (l : Bool) (ow : List (Nat × Nat)) (oid : List Nat)
    (hr : s.rd r = .hold l ow oid) : ∀ p ∈ ow, ∀ q ∈ ow, p.2 = q.2 := by
  have hv := (h.hold hr).words_eq
  -- no copy is under way, since that needs the write lock
  have hci : s.ci = 0 := Nat.eq_zero_of_not_pos fun hp => by
    obtain ⟨rest, e⟩ := h.ci_pos hp
    exact (h.hold hr).excl (write_held h e (Or.inl rfl))
  obtain ⟨base, _, _, hwords, _⟩ := h.shape
  intro p hp q hq
  have a := hv p hp
  have b := hv q hq
  rw [← a.2, ← b.2, hwords _ a.1, hwords _ b.1, hci]
  simp

theorem rid_never_ahead_gen (h : LockInv cfg s) {i : Nat} (hi : i < cfg.k) : s.rid ≤ s.words i := by
  obtain ⟨base, _, _, hwords, hrb, hbv, _⟩ := h.shape
  rw [hwords i hi]
  split
  · exact Nat.le_trans hrb hbv
  · exact hrb

end AmVerif.Lemmas.IsoLock
