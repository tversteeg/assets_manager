import AmVerif.Lemmas.ReadSet
import AmVerif.Lemmas.TopoGraph
/-!
# Semantic convergence of one update pass

* `reloadUntyped_hit` — what `reload_untyped` does when the re-evaluation is a tracked hit-only run
  (exactly: the key's cell gets the new value / nothing changes; the outcome carries exactly the
  recorded dependencies).
* `SettledAt` / `Settled`; `SettledAt.sameOn` — a settled asset stays settled in every cache that holds the same
  under the keys it reads. The invariant `PInv` of a pass, the one-key step `pinv_step`
  (`StepView.pinv`: three instances of `pinv_advance`), the initial invariant `pinv_init`, and `reloadAll_converges`.
* `PassStep` / `passSteps` / `updateSteps` and the three hypotheses on the reloads of a pass:
  `NoMissInPass` (excludes F-C05d), `ReloadsReturn`, `NoRewireOntoPending` (excludes F-C05e).
* `StepView`, `reloadAll_one_view` — under the first two the one-key step of a pass is one of three things;
  `reloadAll_steps_ind` — induction over a pass with a hypothesis on each of its steps.
* executable checks (`settledB`, `stepsHitB`, `stepsReturnB`, `noRewireB`, `noMissB`) with their
  soundness lemmas, for concrete instances.
-/
namespace AmVerif.Model
open AmVerif.Gen AmVerif.Lemmas.TopoGraph AmVerif.Lemmas.Topo

/-! ## `reload_untyped` when the re-evaluation is a tracked hit-only run -/

/-- the entry gets the new value, or (failure) nothing changes; the outcome carries exactly the recorded
dependencies; nothing is sent. Of a re-evaluation that panics or runs out of fuel nothing is claimed
(`ReloadsReturn` excludes both). -/
theorem reloadUntyped_hit {env : Env} {fuel : Nat} {s : St} {key : Key} {c : Cell}
    (hc : s.lookup key = some c) (hd : c.dyn = true) (hh : reloadHit env fuel s key = true) :
    (reloadUntyped env fuel s key).1.out = s.out ∧
    match reloadOut env fuel s key with
    | .ok v => (reloadUntyped env fuel s key).2 = .done (some (reloadDeps env fuel s key, true)) ∧
        (∃ c2, (reloadUntyped env fuel s key).1.lookup key = some c2 ∧ c2.val = v) ∧
        ∀ k, k ≠ key → (reloadUntyped env fuel s key).1.lookup k = s.lookup k
    | .err _ => (reloadUntyped env fuel s key).2 = .done (some (reloadDeps env fuel s key, false)) ∧
        ∀ k, (reloadUntyped env fuel s key).1.lookup k = s.lookup k
    | .panicked => True
    | .diverged => True := by
  have hl : ∀ k, (reloadEval env fuel s key).1.lookup k = s.lookup k := reloadHit_lookup hh
  have hout := reloadHit_out hh
  unfold reloadOut reloadDeps
  rw [reloadUntyped_dyn env fuel s key c hc hd]
  generalize reloadEval env fuel s key = y at hl hout
  obtain ⟨s1, o, deps⟩ := y
  cases o with
  | ok v =>
    refine ⟨hout, rfl, ⟨c.written v, ?_, rfl⟩, fun k hk => ?_⟩
    · exact St.setCell_lookup_self _ _ _ c ((hl key).trans hc)
    · exact (St.setCell_lookup_other _ _ _ _ hk).trans (hl k)
  | err e =>
    -- `failedReloadKeepsNewDeps`, regenerated, is `true`
    exact ⟨hout, rfl, hl⟩
  | panicked => exact ⟨hout, trivial⟩
  | diverged => exact ⟨hout, trivial⟩

/-! ## Settled assets -/

/-- The cached cell `c` of the registered asset `k` (graph node `node`) is **settled** under `env`
and the cache `s`: re-evaluating its loader now is a tracked hit-only run (loads nothing new), and
* either it returns the cached value, and what it reads is exactly the node's dependency set,
* or it fails (the entry keeps its previous value), and everything the failing evaluation reads is
  among the node's dependencies (so that the asset is retried when any of it changes). -/
structure SettledAt (env : Env) (fuel : Nat) (s : St) (node : GNode) (k : Key) (c : Cell) : Prop where
  hit : reloadHit env fuel s k = true
  res : (reloadOut env fuel s k = .ok c.val ∧ ∀ d, d ∈ reloadDeps env fuel s k ↔ d ∈ node.deps) ∨
        (∃ e, reloadOut env fuel s k = .err e ∧ ∀ d, d ∈ reloadDeps env fuel s k → d ∈ node.deps)

/-- every registered (typed node), cached, dynamic asset is settled -/
def Settled (env : Env) (fuel : Nat) (s : St) (g : Graph) : Prop :=
  ∀ k node c, g.get (.asset k) = some node → node.typed = true → s.lookup k = some c → c.dyn = true →
    SettledAt env fuel s node k c

theorem SettledAt.deps_sub {env : Env} {fuel : Nat} {s : St} {node : GNode} {k : Key} {c : Cell}
    (h : SettledAt env fuel s node k c) : ∀ d, d ∈ reloadDeps env fuel s k → d ∈ node.deps := by
  rcases h.res with ⟨_, h2⟩ | ⟨_, _, h2⟩
  · exact fun d hd => (h2 d).mp hd
  · exact h2

theorem SettledAt.of_deps_eq {env : Env} {fuel : Nat} {s : St} {n n' : GNode} {k : Key} {c : Cell}
    (h : SettledAt env fuel s n k c) (e : n.deps = n'.deps) : SettledAt env fuel s n' k c :=
  ⟨h.hit, by rw [← e]; exact h.res⟩

/-- **A settled asset stays settled in every cache that holds the same under the keys its re-evaluation
records**, and records the same there. -/
theorem SettledAt.sameOn {env : Env} (hS : env.Steady) {fuel : Nat} {s t : St} {node : GNode} {k : Key} {c : Cell}
    (h : SettledAt env fuel s node k c) (hsame : SameOn s t (reloadDeps env fuel s k)) :
    SettledAt env fuel t node k c ∧ reloadDeps env fuel t k = reloadDeps env fuel s k := by
  obtain ⟨h1, h2, h3⟩ := reloadEval_sameOn hS h.hit hsame
  exact ⟨⟨h1, by rw [h2, h3]; exact h.res⟩, h3⟩

theorem SettledAt.keep {env : Env} (hS : env.Steady) {fuel : Nat} {s t : St} {node : GNode} {k : Key} {c : Cell}
    (h : SettledAt env fuel s node k c) (hsame : SameOn s t node.deps) : SettledAt env fuel t node k c :=
  (h.sameOn hS fun y hy => hsame y (h.deps_sub _ hy)).1

/-- `Settled` depends on the cache only through its map. -/
theorem settled_congr {env : Env} (hS : env.Steady) {fuel : Nat} {s t : St} {g : Graph}
    (h : ∀ k, t.lookup k = s.lookup k) (hs : Settled env fuel s g) : Settled env fuel t g :=
  fun k node c hg ht hc hd => (hs k node c hg ht ((h k).symm.trans hc) hd).keep hS (fun y _ => h y)

theorem settled_nil (env : Env) (fuel : Nat) (s : St) : Settled env fuel s [] :=
  fun _ _ _ h => by cases h

/-! ## The invariant of a pass -/

/-- the list respects the (initial) graph: whoever depends on a key of the list comes after it -/
def DepsFirst (g0 : Graph) (post : List Key) : Prop :=
  ∀ p1 y p2, post = p1 ++ y :: p2 → ∀ k n, g0.get (.asset k) = some n → Dep.asset y ∈ n.deps → k ∈ p2

theorem DepsFirst.tail {g0 : Graph} {k : Key} {rest : List Key} (h : DepsFirst g0 (k :: rest)) : DepsFirst g0 rest :=
  fun p1 y p2 e => h (k :: p1) y p2 (by rw [e]; rfl)

/-- no (old) dependency of the head key is the head itself or comes later -/
theorem DepsFirst.head_deps {g0 : Graph} {k : Key} {rest : List Key} (h : DepsFirst g0 (k :: rest))
    (hnd : (k :: rest).Nodup) {n : GNode} (hn : g0.get (.asset k) = some n) {y : Key}
    (hy : Dep.asset y ∈ n.deps) : y ∉ k :: rest := by
  intro hm
  -- in both cases the order puts `k` after `y`, hence into `rest`
  have hnk := (List.nodup_cons.mp hnd).1
  rcases List.mem_cons.mp hm with rfl | hm
  · exact hnk (h [] y rest rfl y n hn hy)
  · obtain ⟨q1, q2, e⟩ := List.append_of_mem hm
    have hk := h (k :: q1) y q2 (by rw [e]; rfl) k n hn hy
    exact hnk (e ▸ List.mem_append_right _ (List.mem_cons_of_mem _ hk))

/-- **Invariant of a pass** (`post` = the keys still to be processed, `g0` = the graph the list was
sorted from): every asset that is not pending is settled under the new environment and reads no
pending asset; the dependencies of a pending asset's node are still those of `g0`. -/
structure PInv (env' : Env) (fuel : Nat) (g0 : Graph) (post : List Key) (s : St) (g : Graph) : Prop where
  settled : ∀ k, k ∉ post → ∀ node c, g.get (.asset k) = some node → node.typed = true →
    s.lookup k = some c → c.dyn = true →
      SettledAt env' fuel s node k c ∧ ∀ y, y ∈ post → Dep.asset y ∉ reloadDeps env' fuel s k
  olddeps : ∀ k, k ∈ post → ∀ node, g.get (.asset k) = some node → ∀ d, d ∈ node.deps →
    ∃ n0, g0.get (.asset k) = some n0 ∧ d ∈ n0.deps

theorem PInv.settled_nil {env' : Env} {fuel : Nat} {g0 : Graph} {s : St} {g : Graph}
    (h : PInv env' fuel g0 [] s g) : Settled env' fuel s g :=
  fun k node c hg ht hc hd => (h.settled k (List.not_mem_nil) node c hg ht hc hd).1

/-- **Dropping the head key** from the pending list: the cache changed at most under the head key, the
graph at most at its node, and the head key (if it is a registered cached dynamic asset now) is settled
and reads no key still pending. -/
theorem pinv_advance {env' : Env} (hS' : env'.Steady) {fuel : Nat} {g0 : Graph} {k : Key} {rest : List Key}
    {s s2 : St} {g g' : Graph}
    (hinv : PInv env' fuel g0 (k :: rest) s g) (hnd : (k :: rest).Nodup)
    (h2o : ∀ k', k' ≠ k → s2.lookup k' = s.lookup k') (hg : g.OnlyAt g' (.asset k))
    (hk : ∀ node c, g'.get (.asset k) = some node → node.typed = true → s2.lookup k = some c → c.dyn = true →
      SettledAt env' fuel s2 node k c ∧ ∀ y, y ∈ rest → Dep.asset y ∉ reloadDeps env' fuel s2 k) :
    PInv env' fuel g0 rest s2 g' := by
  constructor
  · intro x hx node' c' hg' ht' hc' hd'
    by_cases hxk : x = k
    · subst hxk; exact hk node' c' hg' ht' hc' hd'
    · have hx' : x ∉ k :: rest := fun hm => (List.mem_cons.mp hm).elim hxk hx
      obtain ⟨et, ed⟩ := hg _ (fun e => hxk (Dep.asset.inj e))
      rw [node_of_get hg'] at et ed
      obtain ⟨n, hn, hnt⟩ := (node_typed_iff g _).mp (et.symm.trans ht')
      rw [node_of_get hn] at ed
      rw [h2o x hxk] at hc'
      obtain ⟨h1, h2⟩ := hinv.settled x hx' n c' hn hnt hc' hd'
      -- `x` does not read `k`, the only key whose cell may have changed
      obtain ⟨t1, t2⟩ := h1.sameOn hS' (.of_ne h2o (h2 k List.mem_cons_self))
      exact ⟨t1.of_deps_eq ed.symm, fun y hy => by rw [t2]; exact h2 y (List.mem_cons_of_mem _ hy)⟩
  · intro x hx node' hg' d hd
    have hxk : x ≠ k := fun e => (List.nodup_cons.mp hnd).1 (e ▸ hx)
    rw [← node_of_get hg', (hg _ (fun e => hxk (Dep.asset.inj e))).2] at hd
    obtain ⟨n, hn, hdn⟩ := (mem_node_deps g _ d).mp hd
    exact hinv.olddeps x (List.mem_cons_of_mem _ hx) n hn d hdn

/-! ## The reloads of a pass, and the hypotheses on them -/

/-- one step of a pass: the key, the keys that come later, and the cache / reloader state the step
starts from -/
structure PassStep where
  key : Key
  later : List Key
  s : St
  r : RSt

/-- the steps of `reloadAll env fuel keys x`, in order -/
def passSteps (env : Env) (fuel : Nat) : List Key → St × RSt → List PassStep
  | [], _ => []
  | k :: ks, x => ⟨k, ks, x.1, x.2⟩ :: passSteps env fuel ks (reloadAll env fuel [k] x)

/-- the step really re-evaluates its key: the key is registered (typed node `node`), cached, and its
entry `c` is dynamic -/
def PassStep.Performs (st : PassStep) (node : GNode) (c : Cell) : Prop :=
  st.r.graph.get (.asset st.key) = some node ∧ node.typed = true ∧ st.s.lookup st.key = some c ∧ c.dyn = true

/-- **excludes F-C05d**: every re-evaluation of the pass is a tracked hit-only run — in particular
it loads no asset that is not cached yet (no miss during the pass) -/
def NoMissInPass (env : Env) (fuel : Nat) (steps : List PassStep) : Prop :=
  ∀ st, st ∈ steps → ∀ node c, st.Performs node c → reloadHit env fuel st.s st.key = true

/-- every re-evaluation of the pass returns a value or an error (no panic, no fuel exhaustion) -/
def ReloadsReturn (env : Env) (fuel : Nat) (steps : List PassStep) : Prop :=
  ∀ st, st ∈ steps → ∀ node c, st.Performs node c →
    (∃ v, reloadOut env fuel st.s st.key = .ok v) ∨ (∃ e, reloadOut env fuel st.s st.key = .err e)

/-- **excludes F-C05e**: no re-evaluation of the pass acquires a NEW dependency (one that is not in
its node before the step) on the asset being reloaded itself or on one reloaded LATER in the pass -/
def NoRewireOntoPending (env : Env) (fuel : Nat) (steps : List PassStep) : Prop :=
  ∀ st, st ∈ steps → ∀ node c, st.Performs node c →
    ∀ y, Dep.asset y ∈ reloadDeps env fuel st.s st.key → Dep.asset y ∉ node.deps → y ≠ st.key ∧ y ∉ st.later

/-- **What the one-key step of a pass does** when the re-evaluation, if there is one, is a tracked hit-only
run that returns: nothing (the key is not registered, not cached, or static); or the key's cell gets the new
value and its node the recorded dependencies; or (failure) the cache is as it was and the node gains the
recorded dependencies. -/
inductive StepView (env : Env) (fuel : Nat) (k : Key) (s : St) (r : RSt) : St × RSt → Prop
  | skip (hno : ∀ node c, r.graph.get (.asset k) = some node → node.typed = true → s.lookup k = some c → c.dyn = true → False) :
      StepView env fuel k s r (s, r)
  | ok (node : GNode) (c : Cell) (v : Val) (s2 : St)
      (hp : r.graph.get (.asset k) = some node ∧ node.typed = true ∧ s.lookup k = some c ∧ c.dyn = true)
      (hh : reloadHit env fuel s k = true) (ho : reloadOut env fuel s k = .ok v)
      (h2k : ∃ c2, s2.lookup k = some c2 ∧ c2.val = v)
      (h2o : ∀ k', k' ≠ k → s2.lookup k' = s.lookup k') (hout : s2.out = s.out) :
      StepView env fuel k s r (s2, { r with graph := r.graph.insertAsset (.asset k) (reloadDeps env fuel s k) })
  | err (node : GNode) (c : Cell) (e : LErr) (s2 : St)
      (hp : r.graph.get (.asset k) = some node ∧ node.typed = true ∧ s.lookup k = some c ∧ c.dyn = true)
      (hh : reloadHit env fuel s k = true) (ho : reloadOut env fuel s k = .err e)
      (h2 : ∀ k', s2.lookup k' = s.lookup k') (hout : s2.out = s.out) :
      StepView env fuel k s r (s2, { r with graph := r.graph.addDeps (.asset k) (reloadDeps env fuel s k) })

theorem reloadAll_one_view {env : Env} {fuel : Nat} {k : Key} {rest : List Key} {s : St} {r : RSt}
    (hdead : r.dead = false)
    (hmiss : ∀ node c, PassStep.Performs ⟨k, rest, s, r⟩ node c → reloadHit env fuel s k = true)
    (hends : ∀ node c, PassStep.Performs ⟨k, rest, s, r⟩ node c →
      (∃ v, reloadOut env fuel s k = .ok v) ∨ (∃ e, reloadOut env fuel s k = .err e)) :
    StepView env fuel k s r (reloadAll env fuel [k] (s, r)) := by
  by_cases hp : ∃ node c, r.graph.get (.asset k) = some node ∧ node.typed = true ∧ s.lookup k = some c ∧ c.dyn = true
  · obtain ⟨node, c, hp⟩ := hp
    have ⟨hg, ht, hc, hd⟩ := hp
    have hh := hmiss node c hp
    rw [((reloadAll_cons env fuel k [] s r).resolve_right (fun h => h.1 ⟨hdead, node, hg, ht⟩)).2]
    show StepView env fuel k s r ((reloadUntyped env fuel s k).1, r.noteReload k (reloadUntyped env fuel s k).2)
    obtain ⟨hout, hm⟩ := reloadUntyped_hit hc hd hh
    rcases hends node c hp with ⟨v, ho⟩ | ⟨e, ho⟩ <;> rw [ho] at hm
    · rw [hm.1]
      exact .ok node c v _ hp hh ho hm.2.1 hm.2.2 hout
    · rw [hm.1]
      exact .err node c e _ hp hh ho hm.2 hout
  · have hno : ∀ node c, r.graph.get (.asset k) = some node → node.typed = true → s.lookup k = some c → c.dyn = true → False :=
      fun node c h1 h2 h3 h4 => hp ⟨node, c, h1, h2, h3, h4⟩
    rcases reloadAll_cons env fuel k [] s r with ⟨⟨_, node, hg, ht⟩, e⟩ | ⟨_, e⟩
    · -- registered, but not cached or static: `reload_untyped` does nothing (it skips static entries: `reloadSkipsStatic`, by evaluation)
      rw [e, reloadUntyped_static (by decide) (fun c hc => Bool.eq_false_iff.2 (hno node c hg ht hc))]
      exact .skip hno
    · rw [e]; exact .skip hno

/-- **Induction over a pass** under a hypothesis `H` on each of its steps. -/
theorem reloadAll_steps_ind {env : Env} {fuel : Nat} (H : PassStep → Prop) (Q : List Key → St × RSt → Prop)
    (step : ∀ k rest s r, H ⟨k, rest, s, r⟩ → Q (k :: rest) (s, r) → Q rest (reloadAll env fuel [k] (s, r))) :
    ∀ post x, (∀ st, st ∈ passSteps env fuel post x → H st) → Q post x → Q [] (reloadAll env fuel post x) := by
  intro post
  induction post with
  | nil => exact fun _ _ hx => hx
  | cons k rest ih =>
    intro ⟨s, r⟩ hH hx
    rw [reloadAll_cons_eq]
    exact ih _ (fun st h => hH st (List.mem_cons_of_mem _ h)) (step k rest s r (hH _ List.mem_cons_self) hx)

/-- **The invariant through one step**, seen through `StepView`, when the re-evaluation records no key
that is still pending: three instances of `pinv_advance`. -/
theorem StepView.pinv {env' : Env} (hS' : env'.Steady) {fuel : Nat} {g0 : Graph} {k : Key} {rest : List Key}
    {s : St} {r : RSt} {x : St × RSt} (hv : StepView env' fuel k s r x)
    (hinv : PInv env' fuel g0 (k :: rest) s r.graph) (hnd : (k :: rest).Nodup)
    (hF : ∀ node c, PassStep.Performs ⟨k, rest, s, r⟩ node c →
      ∀ y, y ∈ k :: rest → Dep.asset y ∉ reloadDeps env' fuel s k) :
    PInv env' fuel g0 rest x.1 x.2.graph ∧ x.2.dead = r.dead ∧ x.1.out = s.out := by
  cases hv with
  | skip hno =>
    exact ⟨pinv_advance hS' hinv hnd (fun _ _ => rfl) (fun _ _ => ⟨rfl, rfl⟩)
      (fun node c h1 h2 h3 h4 => (hno node c h1 h2 h3 h4).elim), rfl, rfl⟩
  | ok node c v s2 hp hh ho h2k h2o hout =>
    have hF := hF node c hp
    refine ⟨pinv_advance hS' hinv hnd h2o (onlyAt_insertAsset _ _ _) ?_, rfl, hout⟩
    intro node' c' hg' _ hc' _
    have hnd' : node'.deps = reloadDeps env' fuel s k := by rw [← node_of_get hg', deps_insertAsset, if_pos rfl]
    obtain ⟨c2, hc2, hv⟩ := h2k
    obtain rfl : c2 = c' := Option.some.inj (hc2.symm.trans hc')
    -- the re-evaluation does not read `k`, the only key whose cell changed
    obtain ⟨r1, r2, r3⟩ := reloadEval_sameOn hS' hh (.of_ne h2o (hF k List.mem_cons_self))
    refine ⟨⟨r1, Or.inl ⟨by rw [r2, ho, hv], fun d => by rw [r3, hnd']⟩⟩, fun y hy => ?_⟩
    rw [r3]; exact hF y (List.mem_cons_of_mem _ hy)
  | err node c e s2 hp hh ho h2 hout =>
    -- the entry keeps its value, the node gains what the failed attempt read
    have hF := hF node c hp
    refine ⟨pinv_advance hS' hinv hnd (fun k' _ => h2 k') (onlyAt_addDeps _ _ _) ?_, rfl, hout⟩
    intro node' c' hg' _ _ _
    obtain ⟨r1, r2, r3⟩ := reloadEval_sameOn hS' hh (t := s2) fun y _ => h2 y
    refine ⟨⟨r1, Or.inr ⟨e, by rw [r2, ho], fun d hd => ?_⟩⟩, fun y hy => ?_⟩
    · rw [r3] at hd
      rw [← node_of_get hg', mem_deps_addDeps]
      exact Or.inr ⟨rfl, Or.inl (by rw [hp.1]; rfl), hd⟩
    · rw [r3]; exact hF y (List.mem_cons_of_mem _ hy)

/-- **Processing one key** keeps the invariant. -/
theorem pinv_step {env' : Env} (hS' : env'.Steady) {fuel : Nat} {g0 : Graph} {k : Key} {rest : List Key}
    {s : St} {r : RSt}
    (hinv : PInv env' fuel g0 (k :: rest) s r.graph) (hdead : r.dead = false)
    (hnd : (k :: rest).Nodup) (hord : DepsFirst g0 (k :: rest))
    (hmiss : ∀ node c, PassStep.Performs ⟨k, rest, s, r⟩ node c → reloadHit env' fuel s k = true)
    (hends : ∀ node c, PassStep.Performs ⟨k, rest, s, r⟩ node c →
      (∃ v, reloadOut env' fuel s k = .ok v) ∨ (∃ e, reloadOut env' fuel s k = .err e))
    (hrew : ∀ node c, PassStep.Performs ⟨k, rest, s, r⟩ node c →
      ∀ y, Dep.asset y ∈ reloadDeps env' fuel s k → Dep.asset y ∉ node.deps → y ≠ k ∧ y ∉ rest) :
    PInv env' fuel g0 rest (reloadAll env' fuel [k] (s, r)).1 (reloadAll env' fuel [k] (s, r)).2.graph ∧
    (reloadAll env' fuel [k] (s, r)).2.dead = false ∧ (reloadAll env' fuel [k] (s, r)).1.out = s.out := by
  -- no dependency the re-evaluation records is pending: old ones by the order of the list, new ones by `hrew`
  have hF : ∀ node c, PassStep.Performs ⟨k, rest, s, r⟩ node c →
      ∀ y, y ∈ k :: rest → Dep.asset y ∉ reloadDeps env' fuel s k := by
    intro node c hper y hy hmem
    by_cases hold : Dep.asset y ∈ node.deps
    · obtain ⟨n0, hn0, hd0⟩ := hinv.olddeps k List.mem_cons_self node hper.1 _ hold
      exact hord.head_deps hnd hn0 hd0 hy
    · obtain ⟨h1, h2⟩ := hrew node c hper y hmem hold
      rcases List.mem_cons.mp hy with e | e
      · exact h1 e
      · exact h2 e
  obtain ⟨h1, h2, h3⟩ := (reloadAll_one_view hdead hmiss hends).pinv hS' hinv hnd hF
  exact ⟨h1, h2.trans hdead, h3⟩

/-- **The pass**: from the invariant for the whole list to `Settled` at the end. -/
theorem reloadAll_converges {env' : Env} (hS' : env'.Steady) {fuel : Nat} {g0 : Graph}
    (post : List Key) (s : St) (r : RSt)
    (hinv : PInv env' fuel g0 post s r.graph) (hdead : r.dead = false) (hnd : post.Nodup) (hord : DepsFirst g0 post)
    (h1 : NoMissInPass env' fuel (passSteps env' fuel post (s, r)))
    (h2 : ReloadsReturn env' fuel (passSteps env' fuel post (s, r)))
    (h3 : NoRewireOntoPending env' fuel (passSteps env' fuel post (s, r))) :
    Settled env' fuel (reloadAll env' fuel post (s, r)).1 (reloadAll env' fuel post (s, r)).2.graph ∧
    (reloadAll env' fuel post (s, r)).2.dead = false ∧ (reloadAll env' fuel post (s, r)).1.out = s.out := by
  have h := reloadAll_steps_ind (env := env') (fuel := fuel) (· ∈ passSteps env' fuel post (s, r))
    (fun post x => PInv env' fuel g0 post x.1 x.2.graph ∧ x.2.dead = false ∧ post.Nodup ∧ DepsFirst g0 post ∧ x.1.out = s.out)
    (fun k rest s1 r1 hst ⟨hP, hlive, hn, ho, hout⟩ => by
      obtain ⟨i1, i2, i3⟩ := pinv_step hS' hP hlive hn ho (h1 _ hst) (h2 _ hst) (h3 _ hst)
      exact ⟨i1, i2, (List.nodup_cons.mp hn).2, ho.tail, i3.trans hout⟩)
    post (s, r) (fun _ hst => hst) ⟨hinv, hdead, hnd, hord, rfl⟩
  obtain ⟨hP, hlive, _, _, hout⟩ := h
  exact ⟨hP.settled_nil, hlive, hout⟩

/-! ## The invariant holds at the start of a pass -/

theorem depsFirst_of_topo {g : Graph} {fuel : Nat} {changed : List Dep} {keys : List Key} {rank : Dep → Nat}
    (hI : g.Inverse) (hr : ∀ a rs b, g.rdepsOf a = some rs → b ∈ rs → rank b < rank a)
    (h : topo g fuel changed = some keys) : DepsFirst g keys := by
  intro p1 y p2 e k n hn hy
  obtain ⟨m, hm, hk⟩ := hI (.asset k) (.asset y) ⟨n, hn, hy⟩
  exact topo_order hr h p1 y p2 e m.rdeps (rdepsOf_eq_some.mpr ⟨m, hm, rfl⟩) k hk (by rw [hn]; simp)

/-- an asset that is not in the reload list depends on nothing that is reachable from a notified
entry -/
theorem unaffected_deps {g : Graph} {fuel : Nat} {toReload : List Dep} {keys : List Key}
    (hI : g.Inverse) (h : topo g fuel toReload = some keys) {x : Key} (hx : x ∉ keys)
    {node : GNode} (hg : g.get (.asset x) = some node) {d : Dep} (hd : d ∈ node.deps) :
    g.get d ≠ none ∧ ∀ c ∈ toReload, ¬ Reach g.rdepsOf c d := by
  obtain ⟨m, hm, hk⟩ := hI (.asset x) d ⟨node, hg, hd⟩
  refine ⟨by rw [hm]; simp, ?_⟩
  intro c hc hr
  exact hx (topo_complete h c hc x (Reach.step hr (rdepsOf_eq_some.mpr ⟨m, hm, rfl⟩) hk) (by rw [hg]; simp))

/-- **Start of the pass.** If everything was settled under the old environment, the new environment
differs from it only on `changed` entries, and every changed entry the graph knows has been
notified, then every asset outside the reload list is settled under the new environment already and
reads no asset of the list. -/
theorem pinv_init {env env' : Env} (hS : env.Steady) (hS' : env'.Steady) (hL : SameLoaders env env')
    {fuel : Nat} {s : St} {g : Graph} {changed toReload : List Dep} {keys : List Key}
    (hset : Settled env fuel s g) (hI : g.Inverse)
    (htopo : topo g fuel toReload = some keys)
    (hfile : ∀ id ext, Dep.file id ext ∉ changed → env'.read 0 id ext = env.read 0 id ext)
    (hdir : ∀ id, Dep.dir id ∉ changed → env'.readDir 0 id = env.readDir 0 id)
    (hnot : ∀ d, d ∈ changed → g.get d ≠ none → d ∈ toReload) :
    PInv env' fuel g keys s g := by
  constructor
  · intro x hx node c hg ht hc hd
    have h0 := hset x node c hg ht hc hd
    have hunch : ∀ d, d ∈ node.deps → d ∉ changed := by
      intro d hdn hch
      obtain ⟨u1, u2⟩ := unaffected_deps hI htopo hx hg hdn
      exact u2 d (hnot d hch u1) (Reach.refl d)
    have hag : ∀ d ∈ reloadDeps env fuel s x, AgreeOn env env' s s d := by
      intro d hdd
      have hdn := h0.deps_sub d hdd
      cases d with
      | file id ext => exact hfile id ext (hunch _ hdn)
      | dir id => exact hdir id (hunch _ hdn)
      | asset y => rfl
    obtain ⟨r1, r2, r3⟩ := reloadEval_readset hS hS' hL fuel s s x h0.hit hag
    refine ⟨⟨r1, by rw [r2, r3]; exact h0.res⟩, ?_⟩
    intro y hy hmem
    rw [r3] at hmem
    obtain ⟨_, u2⟩ := unaffected_deps hI htopo hx hg (h0.deps_sub _ hmem)
    obtain ⟨_, c0, hc0, hr0⟩ := topo_only_reachable htopo y hy
    exact u2 c0 hc0 hr0
  · intro x _ node hg d hd
    exact ⟨node, hg, hd⟩

/-! ## Executable checks (for concrete instances) -/

/-- `SettledAt`, as a check -/
def settledAtB (env : Env) (fuel : Nat) (s : St) (node : GNode) (k : Key) (c : Cell) : Bool :=
  reloadHit env fuel s k &&
  (match reloadOut env fuel s k with
   | .ok v => decide (v = c.val) && (reloadDeps env fuel s k).all (fun d => decide (d ∈ node.deps)) &&
       node.deps.all (fun d => decide (d ∈ reloadDeps env fuel s k))
   | .err _ => (reloadDeps env fuel s k).all (fun d => decide (d ∈ node.deps))
   | _ => false)

theorem settledAt_of_check {env : Env} {fuel : Nat} {s : St} {node : GNode} {k : Key} {c : Cell}
    (h : settledAtB env fuel s node k c = true) : SettledAt env fuel s node k c := by
  unfold settledAtB at h
  simp only [Bool.and_eq_true] at h
  obtain ⟨h1, h2⟩ := h
  refine ⟨h1, ?_⟩
  cases ho : reloadOut env fuel s k with
  | ok v =>
    rw [ho] at h2
    simp only [Bool.and_eq_true, decide_eq_true_eq, List.all_eq_true] at h2
    obtain ⟨⟨hv, ha⟩, hb⟩ := h2
    exact Or.inl ⟨by rw [hv], fun d => ⟨ha d, hb d⟩⟩
  | err e =>
    rw [ho] at h2
    simp only [decide_eq_true_eq, List.all_eq_true] at h2
    exact Or.inr ⟨e, rfl, h2⟩
  | panicked => rw [ho] at h2; cases h2
  | diverged => rw [ho] at h2; cases h2

/-- `Settled`, as a check over the entries of the graph -/
def settledB (env : Env) (fuel : Nat) (s : St) (g : Graph) : Bool :=
  g.all fun x =>
    match x.1 with
    | .asset k =>
      (match s.lookup k with
       | some c => !(x.2.typed && c.dyn) || settledAtB env fuel s x.2 k c
       | none => true)
    | _ => true

theorem settled_of_check {env : Env} {fuel : Nat} {s : St} {g : Graph}
    (h : settledB env fuel s g = true) : Settled env fuel s g := by
  intro k node c hg ht hc hd
  have h1 := List.all_eq_true.mp h (.asset k, node) (get_some_mem hg)
  simp only [hc, ht, hd, Bool.and_self, Bool.not_true, Bool.false_or] at h1
  exact settledAt_of_check h1

/-- `NoMissInPass`, as a check (on every step, performed or not) -/
def stepsHitB (env : Env) (fuel : Nat) (steps : List PassStep) : Bool :=
  steps.all fun st => reloadHit env fuel st.s st.key

/-- `ReloadsReturn`, as a check (on every step, performed or not) -/
def stepsReturnB (env : Env) (fuel : Nat) (steps : List PassStep) : Bool :=
  steps.all fun st =>
    match reloadOut env fuel st.s st.key with
    | .ok _ => true
    | .err _ => true
    | _ => false

theorem noMiss_of_check {env : Env} {fuel : Nat} {steps : List PassStep}
    (h : stepsHitB env fuel steps = true) : NoMissInPass env fuel steps :=
  fun st hst _ _ _ => List.all_eq_true.mp h st hst

theorem reloadsReturn_of_check {env : Env} {fuel : Nat} {steps : List PassStep}
    (h : stepsReturnB env fuel steps = true) : ReloadsReturn env fuel steps := by
  intro st hst _ _ _
  have h1 := List.all_eq_true.mp h st hst
  cases ho : reloadOut env fuel st.s st.key with
  | ok v => exact Or.inl ⟨v, rfl⟩
  | err e => exact Or.inr ⟨e, rfl⟩
  | panicked => rw [ho] at h1; cases h1
  | diverged => rw [ho] at h1; cases h1

/-- `NoRewireOntoPending`, as a check -/
def noRewireB (env : Env) (fuel : Nat) (steps : List PassStep) : Bool :=
  steps.all fun st =>
    match st.r.graph.get (.asset st.key) with
    | some node =>
      (reloadDeps env fuel st.s st.key).all fun d =>
        match d with
        | .asset y => decide (d ∈ node.deps) || (decide (y ≠ st.key) && decide (y ∉ st.later))
        | _ => true
    | none => true

theorem noRewire_of_check {env : Env} {fuel : Nat} {steps : List PassStep}
    (h : noRewireB env fuel steps = true) : NoRewireOntoPending env fuel steps := by
  intro st hst node c hp y hy hno
  have h1 := List.all_eq_true.mp h st hst
  rw [hp.1] at h1
  have h2 := List.all_eq_true.mp h1 _ hy
  simp only [Bool.or_eq_true, Bool.and_eq_true, decide_eq_true_eq] at h2
  rcases h2 with h2 | h2
  · exact (hno h2).elim
  · exact h2

/-- `NoMissInPass` implies its exact check (used to refute it on a concrete pass) -/
def noMissB (env : Env) (fuel : Nat) (steps : List PassStep) : Bool :=
  steps.all fun st =>
    match st.r.graph.get (.asset st.key), st.s.lookup st.key with
    | some node, some c => !(node.typed && c.dyn) || reloadHit env fuel st.s st.key
    | _, _ => true

theorem noMiss_check_of {env : Env} {fuel : Nat} {steps : List PassStep}
    (h : NoMissInPass env fuel steps) : noMissB env fuel steps = true := by
  unfold noMissB
  rw [List.all_eq_true]
  intro st hst
  cases hg : st.r.graph.get (.asset st.key) with
  | none => rfl
  | some node =>
    cases hc : st.s.lookup st.key with
    | none => rfl
    | some c =>
      simp only []
      cases ht : node.typed with
      | false => rfl
      | true =>
        cases hd : c.dyn with
        | false => rfl
        | true => simp only [Bool.and_self, Bool.not_true, Bool.false_or]; exact h st hst node c ⟨hg, ht, hc, hd⟩

/-! ## `run_update` -/

/-- the steps of the pass `runUpdate env fuel s r` performs -/
def updateSteps (env : Env) (fuel : Nat) (s : St) (r : RSt) : List PassStep :=
  match topo r.graph fuel r.toReload with
  | some keys => passSteps env fuel keys (s, { r with toReload := [] })
  | none => []

theorem updateSteps_eq {env : Env} {fuel : Nat} {s : St} {r : RSt} {keys : List Key}
    (hk : topo r.graph fuel r.toReload = some keys) :
    updateSteps env fuel s r = passSteps env fuel keys (s, { r with toReload := [] }) := by
  unfold updateSteps
  rw [hk]

end AmVerif.Model
