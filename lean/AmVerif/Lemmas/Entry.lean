import AmVerif.Lemmas.Reload
import AmVerif.Lemmas.Graph
/-!
# The channel, `run_update`, the entry points of the reloader thread, histories

* `drain`, `drain_inv` — emptying the channel: what taking a registration and taking a `Clear` keep, the drain keeps
  (`drain_dead`, `drain_static`, `drain_toReload`, …).
* `hstep_reloader` — every step of the reloader thread (`handle_events`, `hot_reload()`, `enhance_hot_reloading`): nothing when
  the thread is dead; else drain and take the events / switch the mode (`prePass`), and, when the step runs a pass
  (`HOp.runsPass`), `run_update` and drain again. `hstep_dead` / `_noPass` / `_pass` and the entry points one by one
  (`handleEvents_static` / `_local'`, `enhance_local` / `_static`, `hotReload_static` / `_local` / `_idle_eq`) are its cases.
* `ReloaderInv` — a property of cache and dependency graph that survives emptying the channel, a registration and
  one `reload_untyped` with its graph update survives `run_update` and every step of the reloader thread;
  `runH_inv` — what every step of a history keeps, the history keeps.
* Instances: `Graph.Inverse.reloaderInv` — `rdeps` stays the inverse of `deps`; `runUpdate_ev`, … , `runH_ev` — cells evolve
  (`St.Ev`); `hstep_all`, `runH_all` — invariants of stored cells (`St.All`).
-/
namespace AmVerif.Model
open AmVerif.Gen AmVerif.Lemmas.TopoGraph

/-! ## The channel -/

@[simp] theorem processMsgs_map (s : St) (r : RSt) : (processMsgs s r).1.map = s.map := rfl

theorem processMsgs_fst (s : St) (r : RSt) : (processMsgs s r).1 = { s with out := [] } := rfl

theorem processMsgs_lookup (s : St) (r : RSt) (k : Key) : (processMsgs s r).1.lookup k = s.lookup k :=
  St.lookup_congr rfl k

theorem processMsgs_out (s : St) (r : RSt) : (processMsgs s r).1.out = [] := rfl

/-- what the reloader does with the messages of the channel (`processMsgs`) -/
def drain (msgs : List Msg) (r : RSt) : RSt :=
  msgs.foldl (fun r m =>
    match m with
    | .addAsset key deps => { r with graph := r.graph.insertAsset (.asset key) deps }
    | .clear => { r with toReload := [] }) r

theorem processMsgs_eq (s : St) (r : RSt) : processMsgs s r = ({ s with out := [] }, drain s.out r) := rfl

theorem processMsgs_nil (s : St) (r : RSt) (h : s.out = []) : processMsgs s r = (s, r) := by
  rw [processMsgs_eq, h]
  -- `s` with its empty channel emptied is `s`
  cases s
  cases h
  rfl

/-- what taking a registration and taking a `Clear` keep, taking the whole channel keeps -/
theorem drain_inv (I : RSt → Prop) (hadd : ∀ r key deps, I r → I { r with graph := r.graph.insertAsset (.asset key) deps })
    (hclear : ∀ r, I r → I { r with toReload := [] }) (msgs : List Msg) (r : RSt) (h : I r) : I (drain msgs r) := by
  unfold drain
  induction msgs generalizing r with
  | nil => exact h
  | cons m ms ih =>
    refine ih _ ?_
    cases m with
    | addAsset key deps => exact hadd r key deps h
    | clear => exact hclear r h

theorem drain_dead (msgs : List Msg) (r : RSt) : (drain msgs r).dead = r.dead :=
  drain_inv (·.dead = r.dead) (fun _ _ _ h => h) (fun _ h => h) msgs r rfl

theorem drain_static (msgs : List Msg) (r : RSt) : (drain msgs r).static_ = r.static_ :=
  drain_inv (·.static_ = r.static_) (fun _ _ _ h => h) (fun _ h => h) msgs r rfl

theorem drain_toReload_nil (msgs : List Msg) (r : RSt) (h : r.toReload = []) : (drain msgs r).toReload = [] :=
  drain_inv (·.toReload = []) (fun _ _ _ h => h) (fun _ _ => rfl) msgs r h

/-- a channel of registrations only (no `Clear`): the drain leaves the set of changed entries alone -/
theorem drain_toReload (msgs : List Msg) (r : RSt) (h : ∀ m, m ∈ msgs → ∃ k D, m = .addAsset k D) :
    (drain msgs r).toReload = r.toReload := by
  unfold drain
  induction msgs generalizing r with
  | nil => rfl
  | cons m ms ih =>
    simp only [List.foldl]
    obtain ⟨k, D, e⟩ := h m List.mem_cons_self
    subst e
    exact ih _ (fun m' hm' => h m' (List.mem_cons_of_mem _ hm'))

theorem processMsgs_dead (s : St) (r : RSt) : (processMsgs s r).2.dead = r.dead := drain_dead s.out r
theorem processMsgs_static (s : St) (r : RSt) : (processMsgs s r).2.static_ = r.static_ := drain_static s.out r
theorem processMsgs_toReload_nil (s : St) (r : RSt) (h : r.toReload = []) : (processMsgs s r).2.toReload = [] :=
  drain_toReload_nil s.out r h

/-! ## `run_update` -/

/-- `run_update` either gives up before touching anything (sort ran out of fuel) or is `reloadAll`
over the sorted list. -/
theorem runUpdate_form (env : Env) (fuel : Nat) (s : St) (r : RSt) :
    (topo r.graph fuel r.toReload = none ∧ runUpdate env fuel s r = (s, { r with dead := true })) ∨
    (∃ keys, topo r.graph fuel r.toReload = some keys ∧
      runUpdate env fuel s r = reloadAll env fuel keys (s, { r with toReload := [] })) := by
  unfold runUpdate
  cases topo r.graph fuel r.toReload with
  | none => exact Or.inl ⟨rfl, rfl⟩
  | some keys => exact Or.inr ⟨keys, rfl, rfl⟩

theorem runUpdate_eq {env : Env} {fuel : Nat} {s : St} {r : RSt} {keys : List Key}
    (hk : topo r.graph fuel r.toReload = some keys) :
    runUpdate env fuel s r = reloadAll env fuel keys (s, { r with toReload := [] }) := by
  unfold runUpdate
  rw [hk]

theorem topo_nil (g : Graph) (fuel : Nat) : topo g fuel [] = some [] := rfl

theorem runUpdate_idle (env : Env) (fuel : Nat) (s : St) (r : RSt) (h : r.toReload = []) :
    runUpdate env fuel s r = (s, { r with toReload := [] }) := by
  unfold runUpdate
  rw [h, topo_nil]
  rfl

/-- `run_update` never changes the mode -/
theorem runUpdate_static (env : Env) (fuel : Nat) (s : St) (r : RSt) :
    (runUpdate env fuel s r).2.static_ = r.static_ := by
  rcases runUpdate_form env fuel s r with ⟨_, e⟩ | ⟨keys, _, e⟩
  · rw [e]
  · rw [e]; exact (reloadAll_keeps_mode env fuel keys s _).2

/-! ## The steps of the reloader thread: drain (take the events / switch the mode), `run_update`, drain -/

/-- the events kept by `handle_events` -/
def keepEvents (g : Graph) (evs : List Dep) (l : List Dep) : List Dep :=
  evs.foldl (fun l e => if (g.get e).isSome then addIfAbsent e l else l) l

theorem mem_keepEvents_of_mem (g : Graph) (evs : List Dep) : ∀ (l : List Dep) (d : Dep), d ∈ l → d ∈ keepEvents g evs l := by
  unfold keepEvents
  induction evs with
  | nil => intro l d h; exact h
  | cons e es ih =>
    intro l d h
    simp only [List.foldl]
    apply ih
    split
    · exact (mem_addIfAbsent e d l).mpr (Or.inr h)
    · exact h

/-- every notified entry the graph knows is kept -/
theorem mem_keepEvents (g : Graph) (evs : List Dep) : ∀ (l : List Dep) (d : Dep), d ∈ evs → g.get d ≠ none →
    d ∈ keepEvents g evs l := by
  induction evs with
  | nil => intro l d h; cases h
  | cons e es ih =>
    intro l d h hg
    rcases List.mem_cons.mp h with e1 | e1
    · subst e1
      show d ∈ keepEvents g es (if (g.get d).isSome then addIfAbsent d l else l)
      rw [Option.isSome_iff_ne_none.2 hg]
      exact mem_keepEvents_of_mem g es _ d ((mem_addIfAbsent d d l).mpr (Or.inl rfl))
    · exact ih _ d e1 hg

/-- the state `handle_events` hands to `run_update` (in static mode): the messages of the channel
drained, the events the graph knows taken into the set of changed entries -/
def takeEvents (s : St) (r : RSt) (evs : List Dep) : St × RSt :=
  ((processMsgs s r).1,
   { (processMsgs s r).2 with
     toReload := keepEvents (processMsgs s r).2.graph evs (processMsgs s r).2.toReload })

/-- the state `enhance_hot_reloading` hands to `run_update`: the messages drained, the mode switched -/
def enhanceState (s : St) (r : RSt) : St × RSt :=
  ((processMsgs s r).1, { (processMsgs s r).2 with static_ := true })

theorem takeEvents_drained (s : St) (r : RSt) (evs : List Dep) (hout : s.out = []) :
    takeEvents s r evs = (s, { r with toReload := keepEvents r.graph evs r.toReload }) := by
  unfold takeEvents
  rw [processMsgs_nil s r hout]

theorem enhanceState_drained (s : St) (r : RSt) (hout : s.out = []) :
    enhanceState s r = (s, { r with static_ := true }) := by
  unfold enhanceState
  rw [processMsgs_nil s r hout]

/-- a step of the reloader thread (not an API operation of the cache) -/
def HOp.isReloader : HOp → Bool
  | .api _ => false
  | _ => true

/-- the state the reloader step `op` hands to `run_update` when it runs one (`HOp.runsPass`) — and the
state it ends in when it does not (`hstep_noPass`) -/
def prePass : HOp → St × RSt → St × RSt
  | .notify evs, x => takeEvents x.1 x.2 evs
  | .enhance, x => enhanceState x.1 x.2
  | .hotReload, x => processMsgs x.1 x.2
  | .api _, x => x

/-- does the reloader step run `run_update`? `handle_events` in static mode, `hot_reload()` and the
switch in local mode -/
def HOp.runsPass : HOp → RSt → Bool
  | .notify _, r => r.static_
  | .hotReload, r => !r.static_
  | .enhance, r => !r.static_
  | .api _, _ => false

theorem RSt.static_eta (r : RSt) (h : r.static_ = true) : { r with static_ := true } = r := by
  cases r
  cases h
  rfl

theorem RSt.toReload_eta (r : RSt) (h : r.toReload = []) : { r with toReload := [] } = r := by
  cases r
  cases h
  rfl

/-- **Every step of the reloader thread.** A dead thread does nothing. A live one drains the channel and takes the
events or switches the mode (`prePass`); when the step runs a pass (`HOp.runsPass`) it goes on with `run_update` and
drains again. (`enhance_hot_reloading` in static mode only drains: the switch changes nothing.) -/
theorem hstep_reloader (env : Env) (fuel : Nat) (op : HOp) (hop : op.isReloader = true) (x : St × RSt) :
    hstep fuel (env, op) x =
      if x.2.dead then x
      else if op.runsPass x.2 then
        processMsgs (runUpdate env fuel (prePass op x).1 (prePass op x).2).1 (runUpdate env fuel (prePass op x).1 (prePass op x).2).2
      else prePass op x := by
  obtain ⟨s, r⟩ := x
  cases op with
  | api o => cases hop
  | notify evs =>
    show handleEvents env fuel s r evs = _
    unfold handleEvents
    simp only [processMsgs_eq, drain_static, HOp.runsPass, prePass, takeEvents, keepEvents]
  | hotReload =>
    show hotReload env fuel s r = _
    unfold hotReload
    cases hs : r.static_ <;>
      simp only [processMsgs_eq, drain_static, HOp.runsPass, prePass, hs, Bool.not_true, Bool.not_false, Bool.false_eq_true,
        if_true, if_false]
  | enhance =>
    show enhance env fuel s r = _
    unfold enhance
    cases hs : r.static_ with
    | false =>
      simp only [processMsgs_eq, drain_static, HOp.runsPass, prePass, enhanceState, hs, Bool.not_false, Bool.false_eq_true,
        if_true, if_false]
    | true =>
      simp only [processMsgs_eq, drain_static, HOp.runsPass, prePass, enhanceState, hs, Bool.not_true, Bool.false_eq_true,
        if_true, if_false]
      -- the switch changes nothing
      rw [RSt.static_eta _ ((drain_static s.out r).trans hs)]

theorem hstep_dead (env : Env) (fuel : Nat) (op : HOp) (hop : op.isReloader = true) (x : St × RSt)
    (hd : x.2.dead = true) : hstep fuel (env, op) x = x :=
  (hstep_reloader env fuel op hop x).trans (if_pos hd)

theorem hstep_noPass (env : Env) (fuel : Nat) (op : HOp) (hop : op.isReloader = true) (x : St × RSt)
    (hd : x.2.dead = false) (hrp : op.runsPass x.2 = false) : hstep fuel (env, op) x = prePass op x := by
  rw [hstep_reloader env fuel op hop x, hd, hrp]
  rfl

theorem hstep_pass (env : Env) (fuel : Nat) (op : HOp) (x : St × RSt)
    (hd : x.2.dead = false) (hrp : op.runsPass x.2 = true) :
    hstep fuel (env, op) x =
      processMsgs (runUpdate env fuel (prePass op x).1 (prePass op x).2).1
        (runUpdate env fuel (prePass op x).1 (prePass op x).2).2 := by
  have hop : op.isReloader = true := by
    cases op with
    | api o => cases hrp
    | _ => rfl
  rw [hstep_reloader env fuel op hop x, hd, hrp]
  rfl

/-! The entry points one by one. -/

/-- **`handle_events` in static mode**: drain, take the events, `run_update` at once, drain -/
theorem handleEvents_static (env : Env) (fuel : Nat) (s : St) (r : RSt) (evs : List Dep)
    (hd : r.dead = false) (hs : r.static_ = true) :
    handleEvents env fuel s r evs =
      processMsgs (runUpdate env fuel (takeEvents s r evs).1 (takeEvents s r evs).2).1
        (runUpdate env fuel (takeEvents s r evs).1 (takeEvents s r evs).2).2 :=
  hstep_pass env fuel (.notify evs) (s, r) hd hs

/-- `handle_events` in local mode: drain, take the events -/
theorem handleEvents_local' (env : Env) (fuel : Nat) (s : St) (r : RSt) (evs : List Dep)
    (hd : r.dead = false) (hs : r.static_ = false) :
    handleEvents env fuel s r evs = takeEvents s r evs :=
  hstep_noPass env fuel (.notify evs) rfl (s, r) hd hs

/-- `handle_events` in local mode, channel drained: the events the graph knows are kept, nothing else happens -/
theorem handleEvents_local (env : Env) (fuel : Nat) (s : St) (r : RSt) (evs : List Dep)
    (hd : r.dead = false) (hl : r.static_ = false) (hout : s.out = []) :
    handleEvents env fuel s r evs = (s, { r with toReload := keepEvents r.graph evs r.toReload }) :=
  (handleEvents_local' env fuel s r evs hd hl).trans (takeEvents_drained s r evs hout)

/-- **`enhance_hot_reloading` from the local mode**: drain, switch, `run_update`, drain -/
theorem enhance_local (env : Env) (fuel : Nat) (s : St) (r : RSt)
    (hd : r.dead = false) (hs : r.static_ = false) :
    enhance env fuel s r =
      processMsgs (runUpdate env fuel (enhanceState s r).1 (enhanceState s r).2).1
        (runUpdate env fuel (enhanceState s r).1 (enhanceState s r).2).2 :=
  hstep_pass env fuel .enhance (s, r) hd (congrArg not hs)

/-- `enhance_hot_reloading` in static mode already: only the messages are drained -/
theorem enhance_static (env : Env) (fuel : Nat) (s : St) (r : RSt)
    (hd : r.dead = false) (hs : r.static_ = true) : enhance env fuel s r = processMsgs s r :=
  (hstep_noPass env fuel .enhance rfl (s, r) hd (congrArg not hs)).trans
    (congrArg (Prod.mk _) (RSt.static_eta _ ((processMsgs_static s r).trans hs)))

/-- **`hot_reload()` in static mode is a no-op**: the reloader only takes the messages of the channel -/
theorem hotReload_static (env : Env) (fuel : Nat) (s : St) (r : RSt)
    (hd : r.dead = false) (hs : r.static_ = true) : hotReload env fuel s r = processMsgs s r :=
  hstep_noPass env fuel .hotReload rfl (s, r) hd (congrArg not hs)

/-- `hot_reload()` in local mode: drain, `run_update`, drain -/
theorem hotReload_local (env : Env) (fuel : Nat) (s : St) (r : RSt)
    (hd : r.dead = false) (hs : r.static_ = false) :
    hotReload env fuel s r =
      processMsgs (runUpdate env fuel (processMsgs s r).1 (processMsgs s r).2).1
        (runUpdate env fuel (processMsgs s r).1 (processMsgs s r).2).2 :=
  hstep_pass env fuel .hotReload (s, r) hd (congrArg not hs)

theorem hotReload_eq (env : Env) (fuel : Nat) (s : St) (r : RSt) (hd : r.dead = false) :
    hotReload env fuel s r =
      if (drain s.out r).static_ then ({ s with out := [] }, drain s.out r)
      else processMsgs (runUpdate env fuel { s with out := [] } (drain s.out r)).1
             (runUpdate env fuel { s with out := [] } (drain s.out r)).2 := by
  cases hs : r.static_ with
  | true => exact (hotReload_static env fuel s r hd hs).trans (if_pos ((drain_static s.out r).trans hs)).symm
  | false =>
    exact (hotReload_local env fuel s r hd hs).trans (if_neg (ne_true_of_eq_false ((drain_static s.out r).trans hs))).symm

/-- **`hot_reload()` with no event pending** only takes the registrations, in either mode -/
theorem hotReload_idle_eq (env : Env) (fuel : Nat) (s : St) (r : RSt) (hd : r.dead = false) (ht : r.toReload = []) :
    hotReload env fuel s r = processMsgs s r := by
  cases hs : r.static_ with
  | true => exact hotReload_static env fuel s r hd hs
  | false =>
    have h2 := processMsgs_toReload_nil s r ht
    rw [hotReload_local env fuel s r hd hs, runUpdate_idle env fuel _ _ h2, RSt.toReload_eta _ h2]
    exact processMsgs_nil _ _ rfl

/-- after `enhance_hot_reloading` a live reloader is in static mode -/
theorem enhance_static_after (env : Env) (fuel : Nat) (s : St) (r : RSt) (hd : r.dead = false) :
    (enhance env fuel s r).2.static_ = true := by
  cases hs : r.static_ with
  | true => rw [enhance_static env fuel s r hd hs]; exact (processMsgs_static s r).trans hs
  | false =>
    rw [enhance_local env fuel s r hd hs, processMsgs_static, runUpdate_static]
    rfl

theorem prePass_facts (op : HOp) (hop : op.isReloader = true) (x : St × RSt) :
    (prePass op x).1 = (processMsgs x.1 x.2).1 ∧ (prePass op x).2.graph = (processMsgs x.1 x.2).2.graph ∧
    (prePass op x).2.dead = x.2.dead := by
  cases op with
  | api o => cases hop
  | _ => exact ⟨rfl, rfl, processMsgs_dead x.1 x.2⟩

/-- after a reloader step that runs no pass, a reloader in static mode still has nothing pending -/
theorem prePass_idle (op : HOp) (x : St × RSt) (hrp : op.runsPass x.2 = false)
    (hidle : x.2.static_ = true → x.2.toReload = []) :
    (prePass op x).2.static_ = true → (prePass op x).2.toReload = [] := by
  cases op with
  | api o => exact hidle
  | notify evs =>
    intro h
    have h1 : x.2.static_ = true := (processMsgs_static x.1 x.2).symm.trans h
    have h2 : x.2.static_ = false := hrp
    rw [h1] at h2; cases h2
  | hotReload => exact fun _ => processMsgs_toReload_nil x.1 x.2 (hidle (Bool.not_inj (y := true) hrp))
  | enhance => exact fun _ => processMsgs_toReload_nil x.1 x.2 (hidle (Bool.not_inj (y := true) hrp))

/-! ## Invariants of the reloader's entry points -/

/-- **Invariants of the reloader's entry points.** A property of the cache and the dependency graph that survives
emptying the channel, a registration, and one `reload_untyped` with the graph update its outcome asks for survives
`run_update`, `handle_events`, `hot_reload()`, `enhance_hot_reloading`: every step of the reloader thread. -/
structure ReloaderInv (env : Env) (fuel : Nat) (P : St → Graph → Prop) : Prop where
  drained : ∀ (s : St) (g : Graph), P s g → P { s with out := [] } g
  register : ∀ (s : St) (g : Graph) (k : Key) (deps : List Dep), P s g → P s (g.insertAsset (.asset k) deps)
  reload : ∀ (s : St) (r : RSt) (k : Key), r.Reloads k → P s r.graph →
    P (reloadUntyped env fuel s k).1 (r.noteReload k (reloadUntyped env fuel s k).2).graph

namespace ReloaderInv
variable {env : Env} {fuel : Nat} {P : St → Graph → Prop}

/-- a property of the cache alone -/
theorem of_cache {I : St → Prop} (drained : ∀ s : St, I s → I { s with out := [] })
    (reload : ∀ s k, I s → I (reloadUntyped env fuel s k).1) : ReloaderInv env fuel (fun s _ => I s) :=
  ⟨fun s _ => drained s, fun _ _ _ _ h => h, fun s _ k _ => reload s k⟩

/-- a property of the graph alone: `DepsGraph::insert` keeps it, and so does `add_deps` on a node of the graph -/
theorem of_graph {I : Graph → Prop} (insert : ∀ g a deps, I g → I (g.insertAsset a deps))
    (addDeps : ∀ g a deps, g.get a ≠ none → I g → I (g.addDeps a deps)) : ReloaderInv env fuel (fun _ g => I g) where
  drained _ _ h := h
  register _ g k deps h := insert g (.asset k) deps h
  reload s r k hr h := by
    obtain ⟨_, node, hg, _⟩ := hr
    unfold RSt.noteReload
    split
    · exact insert _ _ _ h
    · exact addDeps _ _ _ (by rw [hg]; exact Option.some_ne_none node) h
    · exact h
    · exact h

theorem processMsgs (h : ReloaderInv env fuel P) (s : St) (r : RSt) (hp : P s r.graph) :
    P (processMsgs s r).1 (processMsgs s r).2.graph :=
  h.drained s _ (drain_inv (fun r => P s r.graph) (fun _ k deps hp => h.register s _ k deps hp) (fun _ hp => hp) s.out r hp)

theorem runUpdate (h : ReloaderInv env fuel P) (s : St) (r : RSt) (hp : P s r.graph) :
    P (runUpdate env fuel s r).1 (runUpdate env fuel s r).2.graph := by
  rcases runUpdate_form env fuel s r with ⟨_, e⟩ | ⟨keys, _, e⟩
  · rw [e]; exact hp
  · rw [e]
    exact reloadAll_inv env fuel (fun x => P x.1 x.2.graph) (fun s r k hp hr => h.reload s r k hr hp) keys s _ hp

/-- … and so every step of a history, if the API operation (when the step is one) does -/
theorem hstep (h : ReloaderInv env fuel P) (op : HOp) (x : St × RSt)
    (hapi : ∀ o, op = .api o → P (step env fuel x.1 o).1 x.2.graph) (hp : P x.1 x.2.graph) :
    P (hstep fuel (env, op) x).1 (hstep fuel (env, op) x).2.graph := by
  cases hop : op.isReloader with
  | false =>
    cases op with
    | api o => exact hapi o rfl
    | _ => cases hop
  | true =>
    cases hd : x.2.dead with
    | true => rw [hstep_dead env fuel op hop x hd]; exact hp
    | false =>
      have hpre : P (prePass op x).1 (prePass op x).2.graph := by
        rw [(prePass_facts op hop x).1, (prePass_facts op hop x).2.1]
        exact h.processMsgs x.1 x.2 hp
      cases hrp : op.runsPass x.2 with
      | false => rw [hstep_noPass env fuel op hop x hd hrp]; exact hpre
      | true => rw [hstep_pass env fuel op x hd hrp]; exact h.processMsgs _ _ (h.runUpdate _ _ hpre)

end ReloaderInv

/-- what every step of a history keeps, the history keeps -/
theorem runH_inv (fuel : Nat) (I : St × RSt → Prop) (hs : List (Env × HOp))
    (hstep : ∀ e ∈ hs, ∀ x, I x → I (hstep fuel e x)) (x : St × RSt) (hx : I x) : I (runH fuel hs x) := by
  induction hs generalizing x with
  | nil => exact hx
  | cons e es ih =>
    exact ih (fun e' he' => hstep e' (List.mem_cons_of_mem _ he')) _ (hstep e List.mem_cons_self x hx)

theorem runH_append (fuel : Nat) (h1 h2 : List (Env × HOp)) (x : St × RSt) :
    runH fuel (h1 ++ h2) x = runH fuel h2 (runH fuel h1 x) := by
  induction h1 generalizing x with
  | nil => rfl
  | cons e es ih => simp only [List.cons_append, runH]; exact ih _

/-! ## The index stays exact -/

/-- everything the reloader does keeps `rdeps` the inverse of `deps` -/
theorem Graph.Inverse.reloaderInv (env : Env) (fuel : Nat) : ReloaderInv env fuel (fun _ g => g.Inverse) :=
  .of_graph (fun _ a deps h => inverse_insertAsset h a deps) (fun _ a deps _ h => inverse_addDeps h a deps)

theorem runUpdate_inverse (env : Env) (fuel : Nat) (s : St) (r : RSt) (h : r.graph.Inverse) :
    (runUpdate env fuel s r).2.graph.Inverse :=
  (Graph.Inverse.reloaderInv env fuel).runUpdate s r h

theorem processMsgs_inverse (s : St) (r : RSt) (h : r.graph.Inverse) : (processMsgs s r).2.graph.Inverse :=
  drain_inv (·.graph.Inverse) (fun _ _ _ h => inverse_insertAsset h _ _) (fun _ h => h) s.out r h

/-! ## Cells evolve -/

/-- everything the reloader does lets the cells of `s0` evolve -/
theorem St.Ev.reloaderInv (env : Env) (fuel : Nat) (s0 : St) : ReloaderInv env fuel (fun s _ => s0.Ev s) :=
  .of_cache (fun _ h => h.trans (St.Ev.of_map_eq rfl)) (fun s k h => h.trans (reloadUntyped_ev env fuel s k))

theorem runUpdate_ev (env : Env) (fuel : Nat) (s : St) (r : RSt) : s.Ev (runUpdate env fuel s r).1 :=
  (St.Ev.reloaderInv env fuel s).runUpdate s r (St.Ev.refl s)
theorem handleEvents_ev (env : Env) (fuel : Nat) (s : St) (r : RSt) (evs : List Dep) : s.Ev (handleEvents env fuel s r evs).1 :=
  (St.Ev.reloaderInv env fuel s).hstep (.notify evs) (s, r) (fun _ e => nomatch e) (St.Ev.refl s)
theorem hotReload_ev (env : Env) (fuel : Nat) (s : St) (r : RSt) : s.Ev (hotReload env fuel s r).1 :=
  (St.Ev.reloaderInv env fuel s).hstep .hotReload (s, r) (fun _ e => nomatch e) (St.Ev.refl s)
theorem enhance_ev (env : Env) (fuel : Nat) (s : St) (r : RSt) : s.Ev (enhance env fuel s r).1 :=
  (St.Ev.reloaderInv env fuel s).hstep .enhance (s, r) (fun _ e => nomatch e) (St.Ev.refl s)

/-- One step that does not remove `k` keeps the cell stored under `k`, evolved. -/
theorem hstep_ev (fuel : Nat) (e : Env × HOp) (x : St × RSt) (k : Key) (c : Cell)
    (hop : e.2.removes k = false) (h : x.1.lookup k = some c) :
    ∃ c', (hstep fuel e x).1.lookup k = some c' ∧ c.Ev c' := by
  obtain ⟨env, op⟩ := e
  cases op with
  | api o => exact ⟨c, step_keeps env fuel x.1 o k c hop h, Cell.Ev.refl c⟩
  | _ => exact (St.Ev.reloaderInv env fuel x.1).hstep _ x (fun _ e => by cases e) (St.Ev.refl x.1) k c h

theorem runH_ev (fuel : Nat) (h : List (Env × HOp)) (x : St × RSt) (k : Key) (c : Cell)
    (hop : ∀ e ∈ h, e.2.removes k = false) (hc : x.1.lookup k = some c) :
    ∃ c', (runH fuel h x).1.lookup k = some c' ∧ c.Ev c' := by
  refine runH_inv fuel (fun x => ∃ c', x.1.lookup k = some c' ∧ c.Ev c') h (fun e he x hx => ?_) x ⟨c, hc, Cell.Ev.refl c⟩
  obtain ⟨c1, h1, e1⟩ := hx
  obtain ⟨c2, h2, e2⟩ := hstep_ev fuel e x k c1 (hop e he) h1
  exact ⟨c2, h2, e1.trans e2⟩

/-! ## Invariants of stored cells -/

theorem St.All.reloaderInv (env : Env) (fuel : Nat) (I) (hw : WriteStable I) (hn : NewCellsSat env I) :
    ReloaderInv env fuel (fun s _ => s.All I) :=
  .of_cache (fun _ h => h) (fun s k => reloadUntyped_all env fuel s k I hw hn)

theorem hstep_all (fuel : Nat) (e : Env × HOp) (x : St × RSt) (I) (hw : WriteStable I)
    (hP : NewCellsSat e.1 I) (hs : x.1.All I) : (hstep fuel e x).1.All I :=
  (St.All.reloaderInv e.1 fuel I hw hP).hstep e.2 x (fun o _ => step_all e.1 fuel x.1 o I hP hs) hs

theorem runH_all (fuel : Nat) (I) (hw : WriteStable I) (h : List (Env × HOp)) (x : St × RSt)
    (hP : ∀ e ∈ h, NewCellsSat e.1 I) (hs : x.1.All I) : (runH fuel h x).1.All I :=
  runH_inv fuel (fun x => x.1.All I) h (fun e he x => hstep_all fuel e x I hw (hP e he)) x hs

end AmVerif.Model
