/-!
# Keyed look-up in an association list (first match wins)

`St.lookup`, `AL.get` and `Graph.get` are all `(m.find? (·.1 = k)).map (·.2)`. The models change such a
list in three ways: append a pair under a key that is not there, filter a key out, overwrite the value
under a key. Each lemma gives the look-up afterwards, key by key. With distinct keys a pair is looked up iff it
is in the list (`find_key_iff`), so the order of the pairs does not matter (`lookup_of_perm`).
-/
namespace AmVerif.Assoc
variable {α β : Type} [DecidableEq α]

theorem find_append {m : List (α × β)} {k : α} (h : (m.find? (·.1 = k)).map (·.2) = none) (k' : α) (c : β) :
    ((m ++ [(k, c)]).find? (·.1 = k')).map (·.2) = if k' = k then some c else (m.find? (·.1 = k')).map (·.2) := by
  rw [List.find?_append]
  by_cases hk : k' = k
  · subst hk
    rw [if_pos rfl, Option.map_eq_none_iff.1 h]
    simp
  · rw [if_neg hk]
    cases m.find? (·.1 = k') with
    | some x => rfl
    | none => simp [Ne.symm hk]

theorem find_filter (m : List (α × β)) (k k' : α) :
    ((m.filter (·.1 ≠ k)).find? (·.1 = k')).map (·.2) = if k' = k then none else (m.find? (·.1 = k')).map (·.2) := by
  rw [List.find?_filter]
  by_cases h : k' = k
  · subst h
    rw [if_pos rfl, List.find?_eq_none.2 (fun x _ => by simp)]
    rfl
  · rw [if_neg h]
    congr 2
    funext x
    by_cases hx : x.1 = k'
    · simp [hx, h]
    · simp [hx]

theorem find_update (m : List (α × β)) (k k' : α) (c : β) :
    ((m.map fun x => if x.1 = k then (k, c) else x).find? (·.1 = k')).map (·.2) =
      if k' = k then ((m.find? (·.1 = k)).map (·.2)).map (fun _ => c) else (m.find? (·.1 = k')).map (·.2) := by
  -- the overwrite keeps every key
  have hp : ((fun x : α × β => decide (x.1 = k')) ∘ fun x => if x.1 = k then (k, c) else x) = fun x => decide (x.1 = k') := by
    funext x
    by_cases hx : x.1 = k
    · simp [hx]
    · simp [hx]
  rw [List.find?_map, hp, Option.map_map]
  by_cases h : k' = k
  · subst h
    rw [if_pos rfl, Option.map_map]
    cases hf : m.find? (fun x => decide (x.1 = k')) with
    | none => rfl
    | some x => simp [show x.1 = k' by simpa using List.find?_some hf]
  · rw [if_neg h]
    cases hf : m.find? (fun x => decide (x.1 = k')) with
    | none => rfl
    | some x => simp [show x.1 = k' by simpa using List.find?_some hf, h]

/-- the overwrite leaves alone every reading `g` of the pairs that does not tell the new pair from the old ones under the key:
the keys, for one -/
theorem map_update {γ : Type} (g : α × β → γ) (m : List (α × β)) (k : α) (c : β) (h : ∀ x ∈ m, x.1 = k → g (k, c) = g x) :
    (m.map fun x => if x.1 = k then (k, c) else x).map g = m.map g := by
  rw [List.map_map]
  refine List.map_congr_left fun x hx => ?_
  show g (if x.1 = k then (k, c) else x) = g x
  split
  · next e => exact h x hx e
  · rfl

theorem mem_of_find {m : List (α × β)} {k : α} {c : β} (h : (m.find? (·.1 = k)).map (·.2) = some c) : (k, c) ∈ m := by
  obtain ⟨y, hf, hc⟩ := Option.map_eq_some_iff.1 h
  have hk : y.1 = k := by simpa using List.find?_some hf
  rw [← hk, ← hc]
  exact List.mem_of_find?_eq_some hf

theorem not_mem_keys_of_find {m : List (α × β)} {k : α} (h : (m.find? (·.1 = k)).map (·.2) = none) : k ∉ m.map (·.1) := by
  intro hm
  obtain ⟨x, hx, e⟩ := List.mem_map.1 hm
  simpa [e] using List.find?_eq_none.1 (Option.map_eq_none_iff.1 h) x hx

/-! ## Distinct keys -/

theorem find_key_iff (l : List (α × β)) (hn : (l.map (·.1)).Nodup) (k : α) (b : β) :
    (l.find? (·.1 = k)).map (·.2) = some b ↔ (k, b) ∈ l := by
  refine ⟨mem_of_find, fun h => ?_⟩
  induction l with
  | nil => cases h
  | cons x xs ih =>
    rw [List.map_cons, List.nodup_cons] at hn
    rw [List.find?_cons]
    rcases List.mem_cons.mp h with rfl | h
    · rw [decide_eq_true rfl]; rfl
    · rw [decide_eq_false fun e : x.1 = k => hn.1 (e ▸ List.mem_map_of_mem (f := (·.1)) h)]
      exact ih hn.2 h

/-- Lists with the same pairs and distinct keys look every key up alike. -/
theorem lookup_of_perm {l l' : List (α × β)} (hn : (l'.map (·.1)).Nodup) (h : l.Perm l') (k : α) :
    (l.find? (·.1 = k)).map (·.2) = (l'.find? (·.1 = k)).map (·.2) := by
  apply Option.ext
  intro b
  rw [find_key_iff l ((h.map _).nodup_iff.mpr hn), find_key_iff l' hn, h.mem_iff]

/-- Looking a key up in a tabulated function. -/
theorem find_map_key {γ : Type} (ks : List γ) (g : γ → α) (h : α → β) (p : α) :
    ((ks.map fun q => (g q, h (g q))).find? (·.1 = p)).map (·.2) = if p ∈ ks.map g then some (h p) else none := by
  cases hf : ((ks.map fun q => (g q, h (g q))).find? (·.1 = p)).map (·.2) with
  | none =>
    have := not_mem_keys_of_find hf
    rw [List.map_map] at this
    exact (if_neg this).symm
  | some c =>
    obtain ⟨q, hq, e⟩ := List.mem_map.mp (mem_of_find hf)
    cases e
    exact (if_pos (List.mem_map_of_mem hq)).symm

end AmVerif.Assoc
