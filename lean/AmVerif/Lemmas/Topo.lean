import AmVerif.Model.Dfs
/-!
# The reload order: graph-algorithm theorems about `visitG` / `sortFrom` (generic node type)

For an arbitrary node type `α` and `rdeps : α → Option (List α)` (`none` = not in the graph):

* `Chain`: the big-step relation of a fold (`foldlM_chain`); `foldlM_returns`, `foldlM_some_congr`,
  `foldlM_map`: when a fold over `Option` returns, and what it returns under another step function;
* `visitG_seen`, `visitG_none`, `visitG_node`: what one call does;
  `visitG_induct`: the induction principle of the fuelled DFS (no fuel in the cases);
* `visitG_ok` (`visitG_step`: its motive `VisitOk` written out) / `sortFrom_inv`: the invariant
  (`Inv`: `sub`, `ing`, `cl`, `ord`, `nodup`) and the `Step` relation between the states before /
  after a visit;
* `sortFrom_nodup`, `sortFrom_sound`, `sortFrom_complete`, `sortFrom_closed`: for EVERY graph;
* `sortFrom_order_scc` (every graph: a reverse dependency comes later unless it is on a cycle with
  the node), `sortFrom_order_acyclic` / `sortFrom_order` (acyclic = ranked graphs: always later; prefix
  formulation), `sortFrom_order_idx` (index formulation);
* `sortFrom_terminates`, `visitG_fuel_mono`, `sortFrom_fuel_mono`.

Core Lean only.
-/
namespace AmVerif.Lemmas.Topo
open AmVerif.Model

variable {α : Type} [DecidableEq α]

/-- `Reach rdeps a b`: `b` is reachable from `a` along `rdeps` edges. Every node of the path except
possibly the last one is in the graph (an edge leaves `b` only if `rdeps b = some _`). -/
inductive Reach (rdeps : α → Option (List α)) : α → α → Prop
  | refl (a : α) : Reach rdeps a a
  | step {a b c : α} {rs : List α} : Reach rdeps a b → rdeps b = some rs → c ∈ rs → Reach rdeps a c

/-! ## Folds over `Option` -/

/-- the big-step relation of a left fold: `R` relates the states around each element -/
inductive Chain (R : VSt α → α → VSt α → Prop) : List α → VSt α → VSt α → Prop
  | nil (s : VSt α) : Chain R [] s s
  | cons {r : α} {rs : List α} {s s1 s2 : VSt α} : R s r s1 → Chain R rs s1 s2 → Chain R (r :: rs) s s2

omit [DecidableEq α] in
theorem foldlM_chain {R : VSt α → α → VSt α → Prop} {f : VSt α → α → Option (VSt α)}
    (hf : ∀ s r s', f s r = some s' → R s r s') :
    ∀ (rs : List α) (s0 s : VSt α), rs.foldlM f s0 = some s → Chain R rs s0 s := by
  intro rs
  induction rs with
  | nil => intro s0 s h; cases h; exact Chain.nil _
  | cons r rs ih =>
    intro s0 s h
    rw [List.foldlM_cons, Option.bind_eq_bind, Option.bind_eq_some_iff] at h
    obtain ⟨s1, hv, h⟩ := h
    exact Chain.cons (hf _ _ _ hv) (ih s1 s h)

example : Chain (fun s r s' => s' = ⟨r :: s.vis, s.out⟩) [1, 2] ⟨[], []⟩ ⟨[2, 1], []⟩ :=
  foldlM_chain (f := fun s r => some ⟨r :: s.vis, s.out⟩) (fun _ _ _ h => by simpa using h.symm) _ _ _ rfl

/-- a fold over `Option` returns if every step does from a state satisfying `P`, and keeps `P` -/
theorem foldlM_returns {σ β : Type} {F : σ → β → Option σ} (P : σ → Prop) :
    ∀ (l : List β) (s0 : σ), P s0 → (∀ s, P s → ∀ r ∈ l, ∃ s', F s r = some s' ∧ P s') →
      ∃ s, l.foldlM F s0 = some s ∧ P s := by
  intro l
  induction l with
  | nil => intro s0 h0 _; exact ⟨s0, rfl, h0⟩
  | cons r l ih =>
    intro s0 h0 hF
    obtain ⟨s1, h1, hP1⟩ := hF s0 h0 r List.mem_cons_self
    obtain ⟨s, hs, hP⟩ := ih s1 hP1 (fun s hs r' hr' => hF s hs r' (List.mem_cons_of_mem _ hr'))
    exact ⟨s, by rw [List.foldlM_cons, h1]; exact hs, hP⟩

/-- in particular it returns if every step does from every state -/
theorem foldlM_returns_all {σ β : Type} {F : σ → β → Option σ} (l : List β) (s0 : σ)
    (hF : ∀ s, ∀ r ∈ l, ∃ s', F s r = some s') : ∃ s, l.foldlM F s0 = some s :=
  have ⟨s, hs, _⟩ := foldlM_returns (fun _ => True) l s0 trivial
    fun s _ r hr => (hF s r hr).imp fun _ h => ⟨h, trivial⟩
  ⟨s, hs⟩

/-- a result of a fold over `Option` is a result of every fold whose step returns what that one's does -/
theorem foldlM_some_congr {σ β : Type} {F G : σ → β → Option σ} (hFG : ∀ s r s', F s r = some s' → G s r = some s') :
    ∀ (l : List β) (s0 s : σ), l.foldlM F s0 = some s → l.foldlM G s0 = some s := by
  intro l
  induction l with
  | nil => intro s0 s h; exact h
  | cons r l ih =>
    intro s0 s h
    rw [List.foldlM_cons, Option.bind_eq_bind, Option.bind_eq_some_iff] at h ⊢
    obtain ⟨s1, hv, h⟩ := h
    exact ⟨s1, hFG _ _ _ hv, ih s1 s h⟩

/-- a fold over `Option` commutes with a map `φ` of the states with which its step commutes -/
theorem foldlM_map {σ τ β : Type} (φ : σ → τ) {F : τ → β → Option τ} {G : σ → β → Option σ}
    (h : ∀ s r, F (φ s) r = (G s r).map φ) :
    ∀ (l : List β) (s0 : σ), l.foldlM F (φ s0) = (l.foldlM G s0).map φ := by
  intro l
  induction l with
  | nil => intro s0; rfl
  | cons r l ih =>
    intro s0
    rw [List.foldlM_cons, List.foldlM_cons, h]
    cases G s0 r with
    | none => rfl
    | some s1 => exact ih s1

/-! ## Paths -/

section
variable (rdeps : α → Option (List α))

omit [DecidableEq α] in
theorem Reach.trans {rdeps : α → Option (List α)} {a b c : α} (h1 : Reach rdeps a b) (h2 : Reach rdeps b c) :
    Reach rdeps a c := by
  induction h2 with
  | refl => exact h1
  | step _ hr hm ih => exact Reach.step ih hr hm

omit [DecidableEq α] in
theorem Reach.edge {rdeps : α → Option (List α)} {a b : α} {rs : List α} (hr : rdeps a = some rs) (hm : b ∈ rs) :
    Reach rdeps a b := Reach.step (Reach.refl a) hr hm

omit [DecidableEq α] in
theorem Reach.head {rdeps : α → Option (List α)} {a b c : α} {rs : List α} (hr : rdeps a = some rs) (hm : b ∈ rs)
    (h : Reach rdeps b c) : Reach rdeps a c :=
  Reach.trans (Reach.edge hr hm) h

/-- a three-node graph with a cycle `1 ↔ 2`, an edge to the absent node `7`, and `0 → 1` -/
def exG : Nat → Option (List Nat)
  | 0 => some [1]
  | 1 => some [2, 7]
  | 2 => some [1]
  | _ => none

/-- an acyclic graph: `0 → 1, 2`; `1 → 2`; `2 → 9` (absent) -/
def exDag : Nat → Option (List Nat)
  | 0 => some [1, 2]
  | 1 => some [2]
  | 2 => some [9]
  | _ => none

/-! ## What one call of `visitG` does

`visitG rdeps (f + 1) st k` is by definition `if k ∈ st.vis then some st else match rdeps k with …`. -/

theorem visitG_seen {f : Nat} {st : VSt α} {k : α} (h : k ∈ st.vis) : visitG rdeps (f + 1) st k = some st :=
  if_pos h

theorem visitG_none {f : Nat} {st : VSt α} {k : α} (h : rdeps k = none) : visitG rdeps (f + 1) st k = some st :=
  if hk : k ∈ st.vis then if_pos hk else (if_neg hk).trans (by rw [h])

theorem visitG_node {f : Nat} {st : VSt α} {k : α} {rs : List α} (hk : k ∉ st.vis) (hg : rdeps k = some rs) :
    visitG rdeps (f + 1) st k =
      (rs.foldlM (fun s r => visitG rdeps f s r) ⟨k :: st.vis, st.out⟩).map fun s => ⟨s.vis, k :: s.out⟩ :=
  (if_neg hk).trans (by
    simp only [hg]
    cases rs.foldlM (fun s r => visitG rdeps f s r) ⟨k :: st.vis, st.out⟩ <;> rfl)

-- the test vectors of the examples below, each evaluated once
theorem exG_visit0 : visitG exG 4 ⟨[], []⟩ 0 = some ⟨[2, 1, 0], [0, 1, 2]⟩ := rfl
theorem exG_visit1 : visitG exG 3 ⟨[0], []⟩ 1 = some ⟨[2, 1, 0], [1, 2]⟩ := rfl
theorem exG_sorted : sortFrom exG 4 [0] = some ⟨[2, 1, 0], [0, 1, 2]⟩ := rfl
theorem exDag_sorted : sortFrom exDag 4 [2, 1, 0] = some ⟨[0, 1, 2], [0, 1, 2]⟩ := rfl

theorem exG_01 : Reach exG 0 1 := Reach.edge (rs := [1]) rfl (by simp)
theorem exG_12 : Reach exG 1 2 := Reach.edge (rs := [2, 7]) rfl (by simp)
theorem exG_21 : Reach exG 2 1 := Reach.edge (rs := [1]) rfl (by simp)
example : Reach exG 0 2 := Reach.trans exG_01 exG_12
example : Reach exG 0 2 := Reach.head (rs := [1]) rfl (by simp) exG_12

/-- **Induction principle of the DFS**: a property of (state before, node, state after) holds of every
returning visit if it holds for a visited node, for a node that is not in the graph, and for a new
node given that it holds along the fold over its reverse dependencies. -/
theorem visitG_induct {motive : VSt α → α → VSt α → Prop}
    (seen : ∀ st k, k ∈ st.vis → motive st k st)
    (absent : ∀ st k, k ∉ st.vis → rdeps k = none → motive st k st)
    (node : ∀ st k rs s, k ∉ st.vis → rdeps k = some rs →
      Chain motive rs ⟨k :: st.vis, st.out⟩ s → motive st k ⟨s.vis, k :: s.out⟩) :
    ∀ f st k st', visitG rdeps f st k = some st' → motive st k st' := by
  intro f
  induction f with
  | zero => intro st k st' h; cases h
  | succ f ih =>
    intro st k st' h
    by_cases hk : k ∈ st.vis
    · rw [visitG_seen rdeps hk] at h; cases h; exact seen st k hk
    · cases hg : rdeps k with
      | none => rw [visitG_none rdeps hg] at h; cases h; exact absent st k hk hg
      | some rs =>
        rw [visitG_node rdeps hk hg] at h
        obtain ⟨s, hf, rfl⟩ := Option.map_eq_some_iff.mp h
        exact node st k rs s hk hg (foldlM_chain ih rs _ s hf)

/-- what holds of every returning visit holds along the visits of the whole sort -/
theorem sortFrom_chain {motive : VSt α → α → VSt α → Prop}
    (hv : ∀ f st k st', visitG rdeps f st k = some st' → motive st k st')
    {fuel : Nat} {changed : List α} {st : VSt α} (h : sortFrom rdeps fuel changed = some st) :
    Chain motive changed ⟨[], []⟩ st :=
  foldlM_chain (fun s r s' => hv fuel s r s') changed _ st h

-- non-vacuous: a visit of the cyclic example returns
example : (visitG exG 4 ⟨[], []⟩ 0).map (·.out) = some [0, 1, 2] := congrArg (Option.map (·.out)) exG_visit0

/-! ## The invariant -/

/-- Order property that holds on EVERY graph: a reverse dependency `b` (that is in the graph) of `a`
comes after `a`, unless `a` is reachable from `b` (then `a` and `b` lie on a cycle). -/
def Ord (out : List α) : Prop :=
  ∀ pre a post, out = pre ++ a :: post → ∀ rs, rdeps a = some rs → ∀ b ∈ rs, rdeps b ≠ none →
    b ∈ post ∨ Reach rdeps b a

structure Inv (st : VSt α) : Prop where
  /-- finished nodes are visited -/
  sub : ∀ x ∈ st.out, x ∈ st.vis
  /-- only nodes of the graph are marked visited -/
  ing : ∀ x ∈ st.vis, rdeps x ≠ none
  /-- the reverse dependencies (in the graph) of a finished node are visited -/
  cl : ∀ a ∈ st.out, ∀ rs, rdeps a = some rs → ∀ b ∈ rs, rdeps b ≠ none → b ∈ st.vis
  ord : Ord rdeps st.out
  nodup : st.out.Nodup

/-- relation between the state before and after a (sequence of) visit(s); "gray" = visited and not
finished (the nodes on the recursion stack) -/
structure Step (st st' : VSt α) : Prop where
  inv   : Inv rdeps st'
  mono  : ∀ x ∈ st.vis, x ∈ st'.vis
  omono : ∀ x ∈ st.out, x ∈ st'.out
  fresh : ∀ x ∈ st'.out, x ∈ st.out ∨ x ∉ st.vis
  gray  : ∀ g ∈ st'.vis, g ∉ st'.out → g ∈ st.vis ∧ g ∉ st.out

omit [DecidableEq α] in
/-- nothing finished yet -/
theorem Inv.of_out_nil {vis : List α} (h : ∀ x ∈ vis, rdeps x ≠ none) : Inv rdeps ⟨vis, []⟩ where
  sub _ h := nomatch h
  ing := h
  cl _ h := nomatch h
  ord pre _ _ h := by cases pre <;> cases h
  nodup := List.nodup_nil

omit [DecidableEq α] in
theorem Inv.empty : Inv rdeps (⟨[], []⟩ : VSt α) := Inv.of_out_nil rdeps (fun _ h => nomatch h)

variable {rdeps}

omit [DecidableEq α] in
theorem Step.refl {st : VSt α} (h : Inv rdeps st) : Step rdeps st st :=
  ⟨h, fun _ h => h, fun _ h => h, fun _ h => Or.inl h, fun _ h1 h2 => ⟨h1, h2⟩⟩

omit [DecidableEq α] in
theorem Step.trans {a b c : VSt α} (h1 : Step rdeps a b) (h2 : Step rdeps b c) : Step rdeps a c where
  inv := h2.inv
  mono x hx := h2.mono x (h1.mono x hx)
  omono x hx := h2.omono x (h1.omono x hx)
  fresh x hx := by
    rcases h2.fresh x hx with h | h
    · exact h1.fresh x h
    · exact Or.inr (fun hv => h (h1.mono x hv))
  gray g hv ho := by
    have ⟨hv', ho'⟩ := h2.gray g hv ho
    exact h1.gray g hv' ho'

omit [DecidableEq α] in
theorem ord_cons {k : α} {out : List α} (ho : Ord rdeps out)
    (hk : ∀ rs, rdeps k = some rs → ∀ b ∈ rs, rdeps b ≠ none → b ∈ out ∨ Reach rdeps b k) :
    Ord rdeps (k :: out) := by
  intro pre a post h rs hrs b hb hbg
  cases pre with
  | nil => simp at h; obtain ⟨rfl, rfl⟩ := h; exact hk rs hrs b hb hbg
  | cons p pre' =>
    simp at h
    exact ho pre' a post h.2 rs hrs b hb hbg

/-- what one returning visit guarantees (the motive of the induction) -/
def VisitOk (rdeps : α → Option (List α)) (st : VSt α) (k : α) (st' : VSt α) : Prop :=
  Inv rdeps st → (∀ g ∈ st.vis, g ∉ st.out → Reach rdeps g k) →
    Step rdeps st st' ∧ (rdeps k ≠ none → k ∈ st'.vis)

omit [DecidableEq α] in
theorem chain_step {rs : List α} {s0 s : VSt α} (h : Chain (VisitOk rdeps) rs s0 s) :
    Inv rdeps s0 → (∀ r ∈ rs, ∀ g ∈ s0.vis, g ∉ s0.out → Reach rdeps g r) →
    Step rdeps s0 s ∧ ∀ r ∈ rs, rdeps r ≠ none → r ∈ s.vis := by
  induction h with
  | nil s => intro hi _; exact ⟨Step.refl hi, by simp⟩
  | cons hR _ ih =>
    intro hi hg
    have ⟨st1, hr1⟩ := hR hi (hg _ (by simp))
    have ⟨st2, hr2⟩ := ih st1.inv (by
      intro r' hr' g hgv hgo
      have ⟨a, b⟩ := st1.gray g hgv hgo
      exact hg r' (by simp [hr']) g a b)
    refine ⟨st1.trans st2, ?_⟩
    intro x hx hxg
    rcases List.mem_cons.mp hx with rfl | hx
    · exact st2.mono _ (hr1 hxg)
    · exact hr2 x hx hxg

theorem visitG_ok (rdeps : α → Option (List α)) :
    ∀ f st k st', visitG rdeps f st k = some st' → VisitOk rdeps st k st' := by
  apply visitG_induct
  · intro st k hk hinv _; exact ⟨Step.refl hinv, fun _ => hk⟩
  · intro st k _ hg hinv _; exact ⟨Step.refl hinv, fun h => absurd hg h⟩
  · intro st k rs s hk hg hch hinv hgray
    have hinv0 : Inv rdeps ⟨k :: st.vis, st.out⟩ :=
      ⟨fun x hx => List.mem_cons_of_mem _ (hinv.sub x hx),
       by
        intro x hx
        rcases List.mem_cons.mp hx with rfl | hx
        · rw [hg]; exact nofun
        · exact hinv.ing x hx,
       fun a ha rs hrs b hb hbg => List.mem_cons_of_mem _ (hinv.cl a ha rs hrs b hb hbg),
       hinv.ord, hinv.nodup⟩
    have ⟨hs, hvis⟩ := chain_step hch hinv0 (by
      intro r hrk g hgv hgo
      rcases List.mem_cons.mp hgv with rfl | hgv
      · exact Reach.edge hg hrk
      · exact Reach.step (hgray g hgv hgo) hg hrk)
    have hkout : k ∉ s.out := by
      intro hks
      rcases hs.fresh k hks with h1 | h1
      · exact hk (hinv.sub k h1)
      · exact h1 List.mem_cons_self
    refine ⟨⟨⟨?sub, hs.inv.ing, ?cl, ?ord, ?nodup⟩, ?mono, ?omono, ?fresh, ?gray⟩, fun _ => hs.mono k List.mem_cons_self⟩
    case sub =>
      intro x hx
      rcases List.mem_cons.mp hx with rfl | hx
      · exact hs.mono _ List.mem_cons_self
      · exact hs.inv.sub x hx
    case cl =>
      intro a ha rs' hrs' b hb hbg
      rcases List.mem_cons.mp ha with rfl | ha
      · rw [hg] at hrs'; cases hrs'; exact hvis b hb hbg
      · exact hs.inv.cl a ha rs' hrs' b hb hbg
    case ord =>
      -- a reverse dependency `b` of `k` that is not finished is gray: it is `k` or was on the stack, so it reaches `k`
      refine ord_cons hs.inv.ord ?_
      intro rs' hrs' b hb hbg
      rw [hg] at hrs'; cases hrs'
      have hbv := hvis b hb hbg
      by_cases hbo : b ∈ s.out
      · exact Or.inl hbo
      · have ⟨a1, a2⟩ := hs.gray b hbv hbo
        rcases List.mem_cons.mp a1 with rfl | a1
        · exact Or.inr (Reach.refl _)
        · exact Or.inr (hgray b a1 a2)
    case nodup => exact List.nodup_cons.mpr ⟨hkout, hs.inv.nodup⟩
    case mono => intro x hx; exact hs.mono x (List.mem_cons_of_mem _ hx)
    case omono => intro x hx; exact List.mem_cons_of_mem _ (hs.omono x hx)
    case fresh =>
      intro x hx
      rcases List.mem_cons.mp hx with rfl | hx
      · exact Or.inr hk
      · rcases hs.fresh x hx with h1 | h1
        · exact Or.inl h1
        · exact Or.inr (fun hv => h1 (List.mem_cons_of_mem _ hv))
    case gray =>
      intro g hgv hgo
      have ⟨a, b⟩ := hs.gray g hgv (fun h => hgo (List.mem_cons_of_mem _ h))
      rcases List.mem_cons.mp a with rfl | a
      · exact absurd List.mem_cons_self hgo
      · exact ⟨a, b⟩

/-- A returning visit of `k` from a state satisfying the invariant, in which every
gray node (on the recursion stack) reaches `k`, yields a state satisfying the invariant, related to
the old one by `Step`; `k` is visited if it is in the graph (unchanged state if it is not). -/
theorem visitG_step {f : Nat} {st st' : VSt α} {k : α} (h : visitG rdeps f st k = some st')
    (hinv : Inv rdeps st) (hgray : ∀ g ∈ st.vis, g ∉ st.out → Reach rdeps g k) :
    Step rdeps st st' ∧ (rdeps k ≠ none → k ∈ st'.vis) :=
  visitG_ok rdeps f st k st' h hinv hgray

/-- the `rdeps k = none` branch: state unchanged -/
theorem visitG_absent {f : Nat} {st st' : VSt α} {k : α} (h : visitG rdeps f st k = some st')
    (hk : rdeps k = none) : st' = st := by
  cases f with
  | zero => cases h
  | succ f => rw [visitG_none rdeps hk] at h; exact (Option.some.inj h).symm

example : ∃ st', visitG exG 4 ⟨[], []⟩ 0 = some st' ∧ Inv exG (⟨[], []⟩ : VSt Nat) ∧
    (∀ g ∈ (⟨[], []⟩ : VSt Nat).vis, g ∉ (⟨[], []⟩ : VSt Nat).out → Reach exG g 0) :=
  ⟨_, exG_visit0, Inv.empty _, fun _ h => nomatch h⟩
example : visitG exG 4 ⟨[0], []⟩ 7 = some ⟨[0], []⟩ ∧ exG 7 = none := ⟨visitG_none exG rfl, rfl⟩

/-- what a visit adds to `vis` is reachable from the visited node -/
def VisitReach (rdeps : α → Option (List α)) (st : VSt α) (k : α) (st' : VSt α) : Prop :=
  ∀ x ∈ st'.vis, x ∈ st.vis ∨ Reach rdeps k x

omit [DecidableEq α] in
theorem chain_reach {rs : List α} {s0 s : VSt α} (h : Chain (VisitReach rdeps) rs s0 s) :
    ∀ x ∈ s.vis, x ∈ s0.vis ∨ ∃ r ∈ rs, Reach rdeps r x := by
  induction h with
  | nil s => intro x hx; exact Or.inl hx
  | cons hR _ ih =>
    intro x hx
    rcases ih x hx with h1 | ⟨r, hr, h1⟩
    · rcases hR x h1 with h2 | h2
      · exact Or.inl h2
      · exact Or.inr ⟨_, by simp, h2⟩
    · exact Or.inr ⟨r, by simp [hr], h1⟩

theorem visitG_reach (rdeps : α → Option (List α)) :
    ∀ f st k st', visitG rdeps f st k = some st' → VisitReach rdeps st k st' := by
  apply visitG_induct
  · intro st k _ x hx; exact Or.inl hx
  · intro st k _ _ x hx; exact Or.inl hx
  · intro st k rs s _ hg hch x hx
    rcases chain_reach hch x hx with h1 | ⟨r, hr, h1⟩
    · simp at h1
      rcases h1 with rfl | h1
      · exact Or.inr (Reach.refl _)
      · exact Or.inl h1
    · exact Or.inr (Reach.head hg hr h1)

example : VisitReach exG ⟨[], []⟩ 1 ⟨[2, 1], [1, 2]⟩ := visitG_reach exG 3 _ _ _ rfl

-- the invariant and the `Step` relation on the cyclic example (visit of `1` from the state in which `0` is gray)
example : Step exG ⟨[0], []⟩ ⟨[2, 1, 0], [1, 2]⟩ ∧ (exG 1 ≠ none → 1 ∈ [2, 1, 0]) :=
  visitG_step exG_visit1 (Inv.of_out_nil exG (by decide))
    (fun g hg _ => by cases List.mem_singleton.mp hg; exact exG_01)
example : Step exG ⟨[], []⟩ ⟨[], []⟩ := Step.refl (Inv.empty exG)
example : Step exG ⟨[], []⟩ ⟨[], []⟩ := (Step.refl (Inv.empty exG)).trans (Step.refl (Inv.empty exG))
example : Ord exG [2] := ord_cons (by intro pre a post h; simp at h)
  (by intro rs h b hb _; cases h; simp at hb; subst hb; exact Or.inr exG_12)
example : Step exG ⟨[], []⟩ ⟨[], []⟩ ∧ ∀ r ∈ ([] : List Nat), exG r ≠ none → r ∈ ([] : List Nat) :=
  chain_step (Chain.nil _) (Inv.empty exG) (by simp)
example : ∀ x ∈ [2, 1], x ∈ ([] : List Nat) ∨ ∃ r ∈ [1], Reach exG r x :=
  chain_reach (s0 := ⟨[], []⟩) (s := ⟨[2, 1], [1, 2]⟩) (Chain.cons (visitG_reach exG 3 _ _ _ rfl) (Chain.nil _))

/-! ## The whole sort -/

/-- The result of the sort satisfies the invariant, has no gray node left
(`vis ⊆ out`), and contains every changed node that is in the graph. -/
theorem sortFrom_inv {fuel : Nat} {changed : List α} {st : VSt α}
    (h : sortFrom rdeps fuel changed = some st) :
    Inv rdeps st ∧ (∀ x ∈ st.vis, x ∈ st.out) ∧ (∀ c ∈ changed, rdeps c ≠ none → c ∈ st.out) := by
  have ⟨hs, hc⟩ := chain_step (sortFrom_chain rdeps (visitG_ok rdeps) h) (Inv.empty rdeps) (by simp)
  -- a node that is still gray at the end was gray at the start, where nothing is visited
  have hno : ∀ x ∈ st.vis, x ∈ st.out := fun x hx =>
    Decidable.byContradiction fun hxo => nomatch (hs.gray x hx hxo).1
  exact ⟨hs.inv, hno, fun c hc' hg => hno c (hc c hc' hg)⟩

example : ∃ st, sortFrom exG 4 [0, 7] = some st ∧ st.out = [0, 1, 2] := ⟨⟨[2, 1, 0], [0, 1, 2]⟩, rfl, rfl⟩

example : Chain (VisitReach exG) [0, 7] ⟨[], []⟩ ⟨[2, 1, 0], [0, 1, 2]⟩ :=
  sortFrom_chain exG (visitG_reach exG) (fuel := 4) rfl

/-- No node is listed twice — on every graph, cyclic or not. -/
theorem sortFrom_nodup {fuel : Nat} {changed : List α} {st : VSt α}
    (h : sortFrom rdeps fuel changed = some st) : st.out.Nodup :=
  (sortFrom_inv h).1.nodup

example : ∃ st, sortFrom exG 4 [2, 0, 1, 0] = some st ∧ st.out = [0, 2, 1] := ⟨⟨[0, 1, 2], [0, 2, 1]⟩, rfl, rfl⟩

/-- Every listed node is in the graph and reachable from a changed node. -/
theorem sortFrom_sound {fuel : Nat} {changed : List α} {st : VSt α}
    (h : sortFrom rdeps fuel changed = some st) :
    ∀ x ∈ st.out, rdeps x ≠ none ∧ ∃ c ∈ changed, Reach rdeps c x := by
  intro x hx
  have hi := (sortFrom_inv h).1
  have hv := hi.sub x hx
  refine ⟨hi.ing x hv, ?_⟩
  rcases chain_reach (sortFrom_chain rdeps (visitG_reach rdeps) h) x hv with h1 | h1
  · simp at h1
  · exact h1

-- `2` is changed, `0` (which only reaches the others) is not listed; the absent `7` is not listed
example : ∃ st, sortFrom exG 4 [2] = some st ∧ st.out = [2, 1] := ⟨⟨[1, 2], [2, 1]⟩, rfl, rfl⟩

/-- The list is closed under `rdeps` (restricted to the graph). -/
theorem sortFrom_closed {fuel : Nat} {changed : List α} {st : VSt α}
    (h : sortFrom rdeps fuel changed = some st) :
    ∀ a ∈ st.out, ∀ rs, rdeps a = some rs → ∀ b ∈ rs, rdeps b ≠ none → b ∈ st.out := by
  intro a ha rs hrs b hb hbg
  have ⟨hi, hno, _⟩ := sortFrom_inv h
  exact hno b (hi.cl a ha rs hrs b hb hbg)

example : 1 ∈ [2, 1] := sortFrom_closed (rdeps := exG) (fuel := 4) (changed := [2]) (st := ⟨[1, 2], [2, 1]⟩) rfl
  2 (by simp) [1] rfl 1 (by simp) (by simp [exG])

/-- Every node of the graph that is reachable from a changed node is listed
(the path's inner nodes are in the graph by the definition of `Reach`). -/
theorem sortFrom_complete {fuel : Nat} {changed : List α} {st : VSt α}
    (h : sortFrom rdeps fuel changed = some st) :
    ∀ c ∈ changed, ∀ x, Reach rdeps c x → rdeps x ≠ none → x ∈ st.out := by
  intro c hc x hr
  induction hr with
  | refl => intro hg; exact (sortFrom_inv h).2.2 c hc hg
  | step _ hrs hm ih =>
    intro hg
    exact sortFrom_closed h _ (ih (by simp [hrs])) _ hrs _ hm hg

example : ∃ st, sortFrom exG 4 [0] = some st ∧ 0 ∈ [0] ∧ Reach exG 0 2 ∧ exG 2 ≠ none ∧ 2 ∈ st.out :=
  ⟨_, exG_sorted, by decide, Reach.trans exG_01 exG_12, by decide, by decide⟩

/-- On EVERY graph: a node comes before each of its reverse dependencies,
except those from which it is itself reachable (they lie on a cycle with it). -/
theorem sortFrom_order_scc {fuel : Nat} {changed : List α} {st : VSt α}
    (h : sortFrom rdeps fuel changed = some st) : Ord rdeps st.out :=
  (sortFrom_inv h).1.ord

example : Ord exG [1, 2] := sortFrom_order_scc (fuel := 4) (changed := [1]) (st := ⟨[2, 1], [1, 2]⟩) rfl

omit [DecidableEq α] in
theorem rank_reach {rank : α → Nat} (hr : ∀ a rs b, rdeps a = some rs → b ∈ rs → rank b < rank a)
    {a b : α} (h : Reach rdeps a b) : rank b ≤ rank a := by
  induction h with
  | refl => exact Nat.le_refl _
  | step _ hrs hm ih => exact Nat.le_of_lt (Nat.lt_of_lt_of_le (hr _ _ _ hrs hm) ih)

omit [DecidableEq α] in
/-- a rank that strictly decreases along the edges rules out cycles -/
theorem not_reach_of_rank {rank : α → Nat} (hr : ∀ a rs b, rdeps a = some rs → b ∈ rs → rank b < rank a) :
    ∀ a rs b, rdeps a = some rs → b ∈ rs → ¬ Reach rdeps b a :=
  fun a rs b hrs hb h => Nat.lt_irrefl _ (Nat.lt_of_lt_of_le (hr a rs b hrs hb) (rank_reach hr h))

omit [DecidableEq α] in
/-- `rank_reach` for a rank that increases along the edges -/
theorem rank_up_reach {rank : α → Nat} (hr : ∀ a rs b, rdeps a = some rs → b ∈ rs → rank a < rank b)
    {a b : α} (h : Reach rdeps a b) : rank a ≤ rank b := by
  induction h with
  | refl => exact Nat.le_refl _
  | step _ hrs hm ih => exact Nat.le_of_lt (Nat.lt_of_le_of_lt ih (hr _ _ _ hrs hm))

/-- If no edge `a → b` closes a cycle (`a` is not reachable from `b`):
in `out = pre ++ a :: post` every reverse dependency of `a` (that is in the graph) is in `post`. -/
theorem sortFrom_order_acyclic (hac : ∀ a rs b, rdeps a = some rs → b ∈ rs → ¬ Reach rdeps b a)
    {fuel : Nat} {changed : List α} {st : VSt α} (h : sortFrom rdeps fuel changed = some st) :
    ∀ pre a post, st.out = pre ++ a :: post → ∀ rs, rdeps a = some rs → ∀ b ∈ rs, rdeps b ≠ none →
      b ∈ post :=
  fun pre a post hout rs hrs b hb hbg =>
    (sortFrom_order_scc h pre a post hout rs hrs b hb hbg).resolve_right (hac a rs b hrs hb)

/-- On a graph with a rank that strictly decreases along edges (acyclic): in
`out = pre ++ a :: post` every reverse dependency of `a` (that is in the graph) is in `post`:
dependencies are refreshed before their dependents. -/
theorem sortFrom_order {rank : α → Nat} (hr : ∀ a rs b, rdeps a = some rs → b ∈ rs → rank b < rank a)
    {fuel : Nat} {changed : List α} {st : VSt α} (h : sortFrom rdeps fuel changed = some st) :
    ∀ pre a post, st.out = pre ++ a :: post → ∀ rs, rdeps a = some rs → ∀ b ∈ rs, rdeps b ≠ none →
      b ∈ post :=
  sortFrom_order_acyclic (not_reach_of_rank hr) h

def exRank (n : Nat) : Nat := 10 - n

theorem exDag_rank : ∀ a rs b, exDag a = some rs → b ∈ rs → exRank b < exRank a := by
  intro a rs b h
  match a, h with
  | 0, h | 1, h | 2, h => cases h; revert b; decide

example : exRank 2 ≤ exRank 0 :=
  rank_reach exDag_rank (Reach.edge (rdeps := exDag) (rs := [1, 2]) rfl (by simp))
example : (0 : Nat) ≤ 2 := rank_up_reach (rdeps := exDag) (rank := id)
  (fun a rs b h hb => by have := exDag_rank a rs b h hb; simp only [exRank, id] at *; omega)
  (Reach.edge (rs := [1, 2]) rfl (by simp))

-- `2` is changed first, still `0` (on which `1`, `2` depend) and `1` come before it
example : ∃ st, sortFrom exDag 4 [2, 1, 0] = some st ∧ st.out = [0, 1, 2] := ⟨_, exDag_sorted, rfl⟩
example : ∀ pre a post, [0, 1, 2] = pre ++ a :: post → ∀ rs, exDag a = some rs → ∀ b ∈ rs, exDag b ≠ none →
    b ∈ post := sortFrom_order exDag_rank exDag_sorted
example : ∀ pre a post, [0, 1, 2] = pre ++ a :: post → ∀ rs, exDag a = some rs → ∀ b ∈ rs, exDag b ≠ none →
    b ∈ post := sortFrom_order exDag_rank exDag_sorted
example : ∀ pre a post, [0, 1, 2] = pre ++ a :: post → ∀ rs, exDag a = some rs → ∀ b ∈ rs, exDag b ≠ none →
    b ∈ post := sortFrom_order_acyclic (fun a rs b h hb hre => by
      have := exDag_rank a rs b h hb; have := rank_reach exDag_rank hre; omega) exDag_sorted
example : ∃ pre post, [0, 1, 2] = pre ++ 1 :: post ∧ 1 ∉ pre ∧ 2 ∈ post :=
  ⟨[0], [2], rfl, by decide, sortFrom_order exDag_rank exDag_sorted [0] 1 [2] rfl [2] rfl 2 (by decide) (by decide)⟩
/-- in a duplicate-free list, what comes after `a` is in the list at a larger index -/
theorem idxOf_lt_of_split {l pre post : List α} {a b : α} (hl : l = pre ++ a :: post)
    (hnd : l.Nodup) (hb : b ∈ post) : b ∈ l ∧ l.idxOf a < l.idxOf b := by
  subst hl
  refine ⟨List.mem_append_right _ (List.mem_cons_of_mem _ hb), ?_⟩
  have ⟨_, h2, h3⟩ := List.nodup_append.mp hnd
  have ha : a ∉ pre := fun h => h3 a h a List.mem_cons_self rfl
  have hbp : b ∉ pre := fun h => h3 b h b (List.mem_cons_of_mem _ hb) rfl
  have hab : a ≠ b := fun e => (List.nodup_cons.mp h2).1 (e ▸ hb)
  rw [List.idxOf_append, List.idxOf_append, if_neg ha, if_neg hbp, List.idxOf_cons_self, List.idxOf_cons,
    beq_false_of_ne hab, cond_false]
  omega

example : [5, 3, 8].idxOf 3 < [5, 3, 8].idxOf 8 := (idxOf_lt_of_split (pre := [5]) (post := [8]) rfl (by decide) (by simp)).2

/-- The index formulation: on a ranked (acyclic) graph every listed node has
a smaller index in `out` than each of its reverse dependencies (which are listed too). -/
theorem sortFrom_order_idx {rank : α → Nat} (hr : ∀ a rs b, rdeps a = some rs → b ∈ rs → rank b < rank a)
    {fuel : Nat} {changed : List α} {st : VSt α} (h : sortFrom rdeps fuel changed = some st) :
    ∀ a ∈ st.out, ∀ rs, rdeps a = some rs → ∀ b ∈ rs, rdeps b ≠ none →
      b ∈ st.out ∧ st.out.idxOf a < st.out.idxOf b := by
  intro a ha rs hrs b hb hbg
  obtain ⟨pre, post, hout⟩ := List.append_of_mem ha
  exact idxOf_lt_of_split hout (sortFrom_nodup h) (sortFrom_order hr h pre a post hout rs hrs b hb hbg)

example : 2 ∈ [0, 1, 2] ∧ [0, 1, 2].idxOf 1 < [0, 1, 2].idxOf 2 :=
  sortFrom_order_idx exDag_rank exDag_sorted 1 (by decide) [2] rfl 2 (by decide) (by decide)

-- on the cyclic example the strict order is impossible (`1` and `2` are each other's reverse
-- dependencies) and `sortFrom_order_scc` is what holds
example : ∃ st, sortFrom exG 4 [1] = some st ∧ st.out = [1, 2] ∧ Reach exG 1 2 ∧ Reach exG 2 1 :=
  ⟨_, rfl, rfl, exG_12, exG_21⟩

/-! ## Termination and fuel -/

/-- number of nodes of `nodes` not yet visited -/
def unv (nodes vis : List α) : Nat := nodes.countP (fun x => !decide (x ∈ vis))

theorem unv_mono (nodes : List α) {v v' : List α} (h : ∀ x ∈ v, x ∈ v') : unv nodes v' ≤ unv nodes v := by
  unfold unv
  apply List.countP_mono_left
  intro x _ hx
  simp at hx ⊢
  exact fun hv => hx (h x hv)

theorem unv_cons_lt (nodes : List α) {v : List α} {k : α} (hk : k ∈ nodes) (hv : k ∉ v) :
    unv nodes (k :: v) < unv nodes v := by
  obtain ⟨l1, l2, rfl⟩ := List.append_of_mem hk
  have h1 := unv_mono l1 (v := v) (v' := k :: v) fun x hx => List.mem_cons_of_mem _ hx
  have h2 := unv_mono l2 (v := v) (v' := k :: v) fun x hx => List.mem_cons_of_mem _ hx
  unfold unv at *
  rw [List.countP_append, List.countP_append, List.countP_cons_of_neg (by simp),
    List.countP_cons_of_pos (by simpa using hv)]
  omega

example : unv [0, 1, 2] [1] = 2 := by decide

example : unv [0, 1, 2] [1, 0] ≤ unv [0, 1, 2] [1] := unv_mono _ (by simp)
example : unv [0, 1, 2] [2, 1] < unv [0, 1, 2] [1] := unv_cons_lt _ (by simp) (by simp)

theorem visitG_vis_mono : ∀ f st k st', visitG rdeps f st k = some st' → ∀ x ∈ st.vis, x ∈ st'.vis := by
  apply visitG_induct (motive := fun st _ st' => ∀ x ∈ st.vis, x ∈ st'.vis)
  · intro st k _ x hx; exact hx
  · intro st k _ _ x hx; exact hx
  · intro st k rs s _ hg hch x hx
    have hx0 : x ∈ (⟨k :: st.vis, st.out⟩ : VSt α).vis := List.mem_cons_of_mem _ hx
    -- the induction over the chain wants its start state and its list as variables (`hg` mentions `rs`)
    generalize (⟨k :: st.vis, st.out⟩ : VSt α) = s0 at hch hx0
    clear hg
    induction hch with
    | nil => exact hx0
    | cons hR _ ih => exact ih (hR x hx0)

example : ∀ x ∈ [0], x ∈ [2, 1, 0] := visitG_vis_mono 3 ⟨[0], []⟩ 1 ⟨[2, 1, 0], [1, 2]⟩ exG_visit1

/-- The visit returns on EVERY finite graph (`nodes` lists the graph's nodes), cyclic or not, with
fuel above the number of still-unvisited nodes. -/
theorem visitG_terminates (nodes : List α) (hfin : ∀ a rs, rdeps a = some rs → a ∈ nodes) :
    ∀ f st k, unv nodes st.vis < f → ∃ st', visitG rdeps f st k = some st' := by
  intro f
  induction f with
  | zero => intro st k h; omega
  | succ f ih =>
    intro st k hlt
    by_cases hkv : k ∈ st.vis
    · exact ⟨st, visitG_seen rdeps hkv⟩
    · cases hg : rdeps k with
      | none => exact ⟨st, visitG_none rdeps hg⟩
      | some rs =>
        have h0 : unv nodes (k :: st.vis) < f := by
          have := unv_cons_lt nodes (hfin k rs hg) hkv; omega
        -- the visits of the reverse dependencies only mark more nodes: the bound is kept
        obtain ⟨s, hs, _⟩ := foldlM_returns (fun s : VSt α => unv nodes s.vis < f) rs ⟨k :: st.vis, st.out⟩ h0
          (fun s hl r _ => by
            obtain ⟨s1, h1⟩ := ih s r hl
            exact ⟨s1, h1, Nat.lt_of_le_of_lt (unv_mono nodes (visitG_vis_mono _ _ _ _ h1)) hl⟩)
        exact ⟨_, by rw [visitG_node rdeps hkv hg, hs]; rfl⟩

theorem exG_fin : ∀ a rs, exG a = some rs → a ∈ [0, 1, 2] := by
  intro a rs h
  match a, h with
  | 0, _ => simp
  | 1, _ => simp
  | 2, _ => simp

-- one node is already visited: fuel 3 is enough for the remaining two
example : ∃ st', visitG exG 3 ⟨[0], []⟩ 1 = some st' :=
  visitG_terminates [0, 1, 2] exG_fin 3 ⟨[0], []⟩ 1 (by decide)

/-- On a finite graph, cyclic or not, fuel `#nodes + 1` suffices. -/
theorem sortFrom_terminates (nodes : List α) (hfin : ∀ a rs, rdeps a = some rs → a ∈ nodes)
    (fuel : Nat) (hfuel : nodes.length + 1 ≤ fuel) (changed : List α) :
    ∃ st, sortFrom rdeps fuel changed = some st := by
  have hlt : ∀ s : VSt α, unv nodes s.vis < fuel := fun s => by
    have : unv nodes s.vis ≤ nodes.length := List.countP_le_length
    omega
  exact foldlM_returns_all changed _ fun s k _ => visitG_terminates nodes hfin fuel s k (hlt s)

example : ∃ st, sortFrom exG 4 [1, 0] = some st := sortFrom_terminates [0, 1, 2] exG_fin 4 (by simp) _
-- the bound is tight for a visit: three nodes on a path need fuel 4
example : sortFrom exG 3 [0] = none ∧ (sortFrom exG 4 [0]).isSome := by decide

/-- More fuel does not change a result. -/
theorem visitG_fuel_mono : ∀ f st k st', visitG rdeps f st k = some st' →
    ∀ f', f ≤ f' → visitG rdeps f' st k = some st' := by
  intro f
  induction f with
  | zero => intro st k st' h; cases h
  | succ f ih =>
    intro st k st' h f' hf'
    obtain ⟨f'', rfl⟩ : ∃ f'', f' = f'' + 1 := ⟨f' - 1, by omega⟩
    by_cases hk : k ∈ st.vis
    · rwa [visitG_seen rdeps hk] at h ⊢
    · cases hg : rdeps k with
      | none => rwa [visitG_none rdeps hg] at h ⊢
      | some rs =>
        rw [visitG_node rdeps hk hg] at h ⊢
        obtain ⟨s, hfo, rfl⟩ := Option.map_eq_some_iff.mp h
        rw [foldlM_some_congr (fun s r s' hv => ih s r s' hv f'' (by omega)) rs _ s hfo]; rfl

example : visitG exG 7 ⟨[0], []⟩ 1 = some ⟨[2, 1, 0], [1, 2]⟩ := visitG_fuel_mono 3 _ _ _ exG_visit1 7 (by decide)
example : [1, 7].foldlM (fun s r => visitG exG 7 s r) ⟨[0], []⟩ = some ⟨[2, 1, 0], [1, 2]⟩ :=
  foldlM_some_congr (F := fun s r => visitG exG 3 s r) (fun s r s' h => visitG_fuel_mono 3 s r s' h 7 (by simp))
    _ _ _ rfl

theorem sortFrom_fuel_mono {fuel fuel' : Nat} {changed : List α} {st : VSt α}
    (h : sortFrom rdeps fuel changed = some st) (hle : fuel ≤ fuel') :
    sortFrom rdeps fuel' changed = some st :=
  foldlM_some_congr (fun s r s' hv => visitG_fuel_mono _ s r s' hv fuel' hle) changed _ st h

example : sortFrom exG 4 [0] = sortFrom exG 9 [0] ∧ (sortFrom exG 4 [0]).isSome :=
  ⟨exG_sorted.trans (sortFrom_fuel_mono exG_sorted (by decide)).symm, exG_sorted ▸ rfl⟩

end

end AmVerif.Lemmas.Topo
