import AmVerif.Model.Iso
/-!
# The step functions of `Model/Iso.lean`, case by case

Each thread's step function is characterised once: what a reader's move does to its own state
(`RMove`), which of three moves a caller makes, which fields a step of a `write` call can touch
(`stepW_frame`), and that `step` is one of the three thread steps; from these, which steps change the
entry (`step_words_rid`). With them the lemmas of `upd` and the six parts of `Cfg.WF`.
The invariants in `IsoLock` and `IsoTok` argue from these.
-/
namespace AmVerif.Model.Iso

theorem upd_same {α} (f : Nat → α) (i : Nat) (v : α) : upd f i v i = v := if_pos rfl
theorem upd_other {α} {f : Nat → α} {i j : Nat} {v : α} (h : j ≠ i) : upd f i v j = f j := if_neg h

/-- What holds of `upd f i v` at `j` holds of the new value, or `j` is another index and it held before. -/
theorem upd_cases {α} {P : α → Prop} {f : Nat → α} {i j : Nat} {v : α} (h : P (upd f i v j)) :
    (j = i ∧ P v) ∨ (j ≠ i ∧ P (f j)) := by
  by_cases e : j = i
  · subst e; rw [upd_same] at h; exact Or.inl ⟨rfl, h⟩
  · rw [upd_other e] at h; exact Or.inr ⟨e, h⟩

/-- An index `j` where `f` has a value that `f i` does not have is not `i`, so `f i := v` leaves it alone. -/
theorem upd_keeps {α} {f : Nat → α} {i j : Nat} {x : α} (v : α) (hi : f i ≠ x) (hj : f j = x) : upd f i v j = x :=
  (upd_other fun e : j = i => hi (e ▸ hj)).trans hj

theorem wf_parts {cfg : Cfg} (h : cfg.WF = true) :
    wfW none cfg.wprog = true ∧ ordOk false false cfg.wprog = true ∧ cfg.readLocks = true ∧ cfg.mapKeeps = true ∧
    armOk cfg.arm = true ∧ cfg.callerWaits = true := by
  simp only [Cfg.WF, Bool.and_eq_true] at h
  obtain ⟨⟨⟨⟨⟨a, b⟩, c⟩, d⟩, e⟩, f⟩ := h
  exact ⟨a, b, c, d, e, f⟩

/-- A reader's move: its own state before and after. -/
inductive RMove (cfg : Cfg) (s : St) (r : Nat) : RS → RS → Prop
  | acq : r < s.n → (cfg.readLocks = true → s.wheld ≠ some .write) → RMove cfg s r .idle (.hold cfg.readLocks [] [])
  | readW {l ow oid} (i : Nat) : i < cfg.k → RMove cfg s r (.hold l ow oid) (.hold l ((i, s.words i) :: ow) oid)
  | readId {l ow oid} : RMove cfg s r (.hold l ow oid) (.hold l ow (s.rid :: oid))
  | map {l ow oid} : RMove cfg s r (.hold l ow oid) (.hold (l && cfg.mapKeeps) ow oid)
  | rel {l ow oid} : RMove cfg s r (.hold l ow oid) .idle

/-- `stepReader` is a stutter or one `RMove` of reader `r`; nothing but `rd r` changes. -/
theorem stepReader_cases (cfg : Cfg) (s : St) (r : Nat) (a : Act) :
    stepReader cfg s r a = s ∨
    ∃ x, RMove cfg s r (s.rd r) x ∧ stepReader cfg s r a = { s with rd := upd s.rd r x } := by
  unfold stepReader
  generalize s.rd r = y
  cases y with
  | idle =>
    cases a with
    | acq _ =>
      by_cases hen : r < s.n ∧ (cfg.readLocks = true → s.wheld ≠ some .write)
      · exact Or.inr ⟨_, .acq hen.1 hen.2, if_pos hen⟩
      · exact Or.inl (if_neg hen)
    | _ => exact Or.inl rfl
  | hold l ow oid =>
    cases a with
    | readW _ i =>
      by_cases hi : i < cfg.k
      · exact Or.inr ⟨_, .readW i hi, if_pos hi⟩
      · exact Or.inl (if_neg hi)
    | readId _ => exact Or.inr ⟨_, .readId, rfl⟩
    | map _ => exact Or.inr ⟨_, .map, rfl⟩
    | rel _ => exact Or.inr ⟨_, .rel, rfl⟩
    | _ => exact Or.inl rfl

/-- `stepCaller` is a stutter or one of the caller's three moves. -/
theorem stepCaller_cases (cfg : Cfg) (s : St) (c : Nat) (a : Act) :
    stepCaller cfg s c a = s ∨
    (s.cl c = .idle ∧ stepCaller cfg s c a = { s with cl := upd s.cl c (.got s.nextTok), nextTok := s.nextTok + 1 }) ∨
    (∃ t, s.cl c = .got t ∧
      stepCaller cfg s c a = { s with cl := upd s.cl c (.waiting t), queue := s.queue ++ [t], log := .sent c t :: s.log }) ∨
    (∃ t, s.cl c = .waiting t ∧ (t ∈ s.answered ∨ cfg.callerWaits = false) ∧
      stepCaller cfg s c a = { s with cl := upd s.cl c .idle, log := .ret c t :: s.log }) := by
  unfold stepCaller
  generalize s.cl c = y
  cases y with
  | idle =>
    cases a with
    | tok _ => exact Or.inr (Or.inl ⟨rfl, rfl⟩)
    | _ => exact Or.inl rfl
  | got t =>
    cases a with
    | send _ => exact Or.inr (Or.inr (Or.inl ⟨t, rfl, rfl⟩))
    | _ => exact Or.inl rfl
  | waiting t =>
    cases a with
    | ret _ =>
      by_cases hen : t ∈ s.answered ∨ cfg.callerWaits = false
      · exact Or.inr (Or.inr (Or.inr ⟨t, rfl, hen, if_pos hen⟩))
      · exact Or.inl (if_neg hen)
    | _ => exact Or.inl rfl

/-- One step of a `write` call moves the lock, the entry, the copy index and the `write` program, nothing
else; words and id change only in a `copy` or `inc` step, which is logged as a write of the pass being served. -/
theorem stepW_frame (cfg : Cfg) (s : St) (w : WStep) (rest : List WStep) :
    ∃ words rid flag wheld wrest ci log,
      stepW cfg s w rest = { s with words, rid, flag, wheld, wrest, ci, log } ∧
      ((words = s.words ∧ rid = s.rid ∧ log = s.log) ∨ ((w = .copy ∨ w = .inc) ∧ log = .wr s.cur :: s.log)) := by
  cases w with
  | acq k =>
    cases k with
    | read =>
      by_cases h : s.wheld = none
      · exact ⟨_, _, _, _, _, _, _, if_pos h, Or.inl ⟨rfl, rfl, rfl⟩⟩
      · exact ⟨_, _, _, _, _, _, _, if_neg h, Or.inl ⟨rfl, rfl, rfl⟩⟩
    | write =>
      by_cases h : s.wheld = none ∧ s.readersLocked = false
      · exact ⟨_, _, _, _, _, _, _, if_pos h, Or.inl ⟨rfl, rfl, rfl⟩⟩
      · exact ⟨_, _, _, _, _, _, _, if_neg h, Or.inl ⟨rfl, rfl, rfl⟩⟩
  | copy =>
    by_cases h : s.ci < cfg.k
    · exact ⟨_, _, _, _, _, _, _, if_pos h, Or.inr ⟨Or.inl rfl, rfl⟩⟩
    · exact ⟨_, _, _, _, _, _, _, if_neg h, Or.inl ⟨rfl, rfl, rfl⟩⟩
  | inc => exact ⟨_, _, _, _, _, _, _, rfl, Or.inr ⟨Or.inr rfl, rfl⟩⟩
  | setFlag | rel => exact ⟨_, _, _, _, _, _, _, rfl, Or.inl ⟨rfl, rfl, rfl⟩⟩

/-- A fact about every step is a fact about the three thread steps. -/
theorem step_cases {cfg : Cfg} {s : St} {P : St → Prop} (hr : ∀ r a, P (stepReader cfg s r a))
    (hl : ∀ more, P (stepRl cfg s more)) (hc : ∀ c a, P (stepCaller cfg s c a)) (a : Act) : P (step cfg s a) := by
  cases a with
  | rl more => exact hl more
  | acq r => exact hr r (.acq r)
  | readW r i => exact hr r (.readW r i)
  | readId r => exact hr r (.readId r)
  | map r => exact hr r (.map r)
  | rel r => exact hr r (.rel r)
  | tok c => exact hc c (.tok c)
  | send c => exact hc c (.send c)
  | ret c => exact hc c (.ret c)

theorem run_induction {cfg : Cfg} {P : St → Prop} (hstep : ∀ s a, P s → P (step cfg s a)) (s : St) (h : P s)
    (σ : List Act) : P (run cfg s σ) := by
  induction σ generalizing s with
  | nil => exact h
  | cons a as ih => exact ih _ (hstep s a h)

/-- Every step leaves the words and the reload id alone, unless it is a `copy` or `inc` step of a
running `write` call, and then it is logged as a write of the pass being served. -/
theorem step_words_rid (cfg : Cfg) (s : St) (a : Act) :
    ((step cfg s a).words = s.words ∧ (step cfg s a).rid = s.rid) ∨
    ∃ w rest, s.wrest = w :: rest ∧ (w = .copy ∨ w = .inc) ∧ (step cfg s a).log = .wr s.cur :: s.log := by
  refine step_cases (P := fun s' => (s'.words = s.words ∧ s'.rid = s.rid) ∨
    ∃ w rest, s.wrest = w :: rest ∧ (w = .copy ∨ w = .inc) ∧ s'.log = .wr s.cur :: s.log) (fun r a' => ?_) (fun m => ?_)
    (fun c a' => ?_) a
  · refine Or.inl ?_
    rcases stepReader_cases cfg s r a' with e | ⟨x, _, e⟩ <;> rw [e] <;> exact ⟨rfl, rfl⟩
  · unfold stepRl
    cases e : s.wrest with
    | cons w rest =>
      obtain ⟨_, _, _, _, _, _, _, eq, hl⟩ := stepW_frame cfg s w rest
      dsimp only
      rw [eq]
      exact hl.imp (fun x => ⟨x.1, x.2.1⟩) fun x => ⟨w, rest, rfl, x⟩
    | nil =>
      refine Or.inl ?_
      cases s.rrest with
      | nil => cases s.queue <;> exact ⟨rfl, rfl⟩
      | cons x rr =>
        cases x with
        | update => cases m <;> exact ⟨rfl, rfl⟩
        | notify => exact ⟨rfl, rfl⟩
  · refine Or.inl ?_
    rcases stepCaller_cases cfg s c a' with e | ⟨_, e⟩ | ⟨_, _, e⟩ | ⟨_, _, _, e⟩ <;> rw [e] <;> exact ⟨rfl, rfl⟩

/-- A step that changes a word or the reload id is a `copy` or `inc` step of a running `write` call. -/
theorem change_is_write (cfg : Cfg) (s : St) (a : Act)
    (hch : (step cfg s a).words ≠ s.words ∨ (step cfg s a).rid ≠ s.rid) :
    ∃ w rest, s.wrest = w :: rest ∧ (w = .copy ∨ w = .inc) ∧ (step cfg s a).log = .wr s.cur :: s.log :=
  (step_words_rid cfg s a).resolve_left fun h => hch.elim (fun x => x h.1) (fun x => x h.2)

end AmVerif.Model.Iso
